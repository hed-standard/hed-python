/-
Shared file-system step model (DESIGN.md section 3, "File system / OS"), namespace `HedVerif.FS`.

State  = association list  path -> file   (`File = dir | reg bytes`), paths are component lists.
Steps  = `mkdir`, `create` (create-empty / truncate = `open(p,'w')`), `append` (one written chunk),
         `close`, `rename` (`os.replace` of one entry), `remove`.
`shutil.copy*`/`open+write` are `create; append*; close`, so a truncated file is a reachable state.
Crash  = stop after any prefix of the step list (`crashAfter`).
Not modelled: loss of data after a reported success, permissions, metadata (`copystat`), symlinks.
`create` on an existing directory overwrites the entry (Python raises `IsADirectoryError`; unreachable
from the well-formed trees the users of this model start from).
The content alphabet `β` is a parameter (bytes, or lexed JSON symbols, see `Model/Backup.lean`).
No Mathlib imports: this file is linked into the native driver.
-/
namespace HedVerif.FS

abbrev Name := List Char
abbrev Path := List Name

inductive File (β : Type) where
  | dir
  | reg (content : List β)
deriving Repr, DecidableEq, Inhabited

abbrev State (β : Type) := List (Path × File β)

variable {β : Type}

/-- `os.path.exists` / `isdir` / reading: first entry stored under the path. -/
def get : State β → Path → Option (File β)
  | [], _ => none
  | (q, f) :: r, p => if q = p then some f else get r p

/-- Replace in place, or append a new entry. Keys stay unique if they were. -/
def set : State β → Path → File β → State β
  | [], p, f => [(p, f)]
  | (q, g) :: r, p, f => if q = p then (p, f) :: r else (q, g) :: set r p f

def del (s : State β) (p : Path) : State β := s.filter (fun e => !(e.1 == p))

/-- `shutil.rmtree(p)` / `os.remove(p)`: drop the entry and everything below it. -/
def delTree (s : State β) (p : Path) : State β := s.filter (fun e => !(p.isPrefixOf e.1))

def isDir (s : State β) (p : Path) : Bool :=
  match get s p with | some .dir => true | _ => false

def isReg (s : State β) (p : Path) : Bool :=
  match get s p with | some (.reg _) => true | _ => false

/-- `os.listdir(p)`: names of the entries directly below `p`. -/
def children (s : State β) (p : Path) : List Name :=
  s.filterMap (fun e => if e.1.dropLast = p then e.1.getLast? else none)

/-- Regular files strictly below `root` (`os.walk` + files; `io_util.get_file_list` without filters). -/
def walk (s : State β) (root : Path) : List Path :=
  s.filterMap (fun e => if root.isPrefixOf e.1 && isReg s e.1 then some e.1 else none)

inductive Step (β : Type) where
  | mkdir (p : Path)                       -- no-op when something exists at `p` (`exist_ok=True`)
  | create (p : Path)                      -- create empty or truncate
  | append (p : Path) (chunk : List β)     -- write one chunk at the end of an open regular file
  | close (p : Path)
  | rename (a b : Path)                    -- `os.replace(a, b)` of one entry, atomic
  | remove (p : Path)
deriving Repr

def step (s : State β) : Step β → State β
  | .mkdir p => match get s p with | none => set s p .dir | some _ => s
  | .create p => set s p (.reg [])
  | .append p ch => match get s p with | some (.reg c) => set s p (.reg (c ++ ch)) | _ => s
  | .close _ => s
  | .rename a b => match get s a with | some f => set (del s a) b f | none => s
  | .remove p => del s p

def exec (steps : List (Step β)) (s : State β) : State β := steps.foldl step s

/-- The state a crash leaves behind: exactly the first `k` primitive steps happened. -/
def crashAfter (k : Nat) (steps : List (Step β)) (s : State β) : State β := exec (steps.take k) s

/-- Paths whose entry a step may change. -/
def Step.tgt : Step β → List Path
  | .mkdir p => [p] | .create p => [p] | .append p _ => [p] | .close _ => []
  | .rename a b => [a, b] | .remove p => [p]

/-- `copy`-like leaf: `create; append first half; append rest; close`. -/
def writeSteps (p : Path) (c : List β) : List (Step β) :=
  [.create p, .append p (c.take (c.length / 2)), .append p (c.drop (c.length / 2)), .close p]

/-- `os.makedirs(base ++ rel, exist_ok=True)` issued below an existing `base`: one `mkdir` per prefix. -/
def mkdirsSteps (base : Path) (rel : Path) : List (Step β) :=
  (List.range rel.length).map (fun i => .mkdir (base ++ rel.take (i + 1)))

theorem get_set (s : State β) (p q : Path) (f : File β) :
    get (set s p f) q = if p = q then some f else get s q := by
  induction s with
  | nil => simp [set, get]
  | cons e r ih =>
    obtain ⟨a, g⟩ := e
    by_cases h : a = p
    · subst h; simp only [set, if_true, get]; split <;> simp_all
    · simp only [set, h, if_false, get, ih]
      by_cases h2 : a = q
      · subst h2; simp [Ne.symm h]
      · simp [h2]

theorem get_filter (P : Path → Bool) (s : State β) (q : Path) :
    get (s.filter (fun e => P e.1)) q = if P q then get s q else none := by
  induction s with
  | nil => simp [get]
  | cons e r ih =>
    rw [List.filter_cons]
    by_cases h : e.1 = q
    · subst h
      cases hp : P e.1 <;> simp [get, hp, ih]
    · cases hp : P e.1 <;> simp [get, h, ih]

theorem get_del (s : State β) (p q : Path) :
    get (del s p) q = if p = q then none else get s q := by
  rw [del, get_filter (fun k => !(k == p))]
  by_cases h : p = q
  · simp [h]
  · simp [h, Ne.symm h]

theorem get_delTree (s : State β) (p q : Path) :
    get (delTree s p) q = if p <+: q then none else get s q := by
  rw [delTree, get_filter (fun k => !(p.isPrefixOf k))]
  cases hb : p.isPrefixOf q <;> simp [hb, ← List.isPrefixOf_iff_prefix]

/-- A step changes only the entries it targets. -/
theorem get_step (s : State β) (st : Step β) (q : Path) (h : q ∉ st.tgt) :
    get (step s st) q = get s q := by
  cases st with
  | mkdir p | append p ch =>
    have : p ≠ q := by intro e; simp [Step.tgt, e] at h
    simp only [step]; split <;> simp [get_set, this]
  | create p | remove p =>
    have : p ≠ q := by intro e; simp [Step.tgt, e] at h
    simp [step, get_set, get_del, this]
  | close p => rfl
  | rename a b =>
    have ha : a ≠ q := by intro e; simp [Step.tgt, e] at h
    have hb : b ≠ q := by intro e; simp [Step.tgt, e] at h
    simp only [step]; split <;> simp [get_set, get_del, ha, hb]

theorem exec_append (a b : List (Step β)) (s : State β) : exec (a ++ b) s = exec b (exec a s) := by
  simp [exec, List.foldl_append]

theorem exec_cons (a : Step β) (b : List (Step β)) (s : State β) : exec (a :: b) s = exec b (step s a) := rfl

theorem get_exec (steps : List (Step β)) (s : State β) (q : Path)
    (h : ∀ st ∈ steps, q ∉ st.tgt) : get (exec steps s) q = get s q := by
  induction steps generalizing s with
  | nil => rfl
  | cons a r ih =>
    rw [exec_cons, ih _ (fun st hst => h st (List.mem_cons_of_mem _ hst)), get_step _ _ _ (h a (List.mem_cons_self ..))]

/-- After the four leaf steps the file holds exactly `c`; nothing else changed. -/
theorem get_writeSteps (s : State β) (p q : Path) (c : List β) :
    get (exec (writeSteps p c) s) q = if p = q then some (.reg c) else get s q := by
  by_cases h : p = q
  · subst h
    simp [writeSteps, exec, step, get_set, List.take_append_drop]
  · simp [writeSteps, exec, step, get_set, h]

/-- `j < 3`: `writeSteps` is create, first half, second half, close. -/
theorem get_writeSteps_torn (s : State β) (p : Path) (b : List β) (j : Nat) (h1 : 1 ≤ j) (h2 : j < 3) :
    ∃ n ≤ b.length / 2, get (exec ((writeSteps p b).take j) s) p = some (.reg (b.take n)) := by
  obtain rfl | rfl : j = 1 ∨ j = 2 := by omega
  · exact ⟨0, Nat.zero_le _, by simp [writeSteps, exec, step, get_set]⟩
  · exact ⟨b.length / 2, Nat.le_refl _, by simp [writeSteps, exec, step, get_set]⟩

/-- `mkdir` never creates, changes or removes a regular file. -/
theorem get_mkdir_reg (s : State β) (p q : Path) (c : List β) :
    get (step s (.mkdir p)) q = some (.reg c) ↔ get s q = some (.reg c) := by
  simp only [step]
  split
  · rename_i hn
    by_cases h : p = q
    · subst h; simp [get_set, hn]
    · simp [get_set, h]
  · rfl

theorem get_mkdirs_reg (base rel : Path) (s : State β) (q : Path) (c : List β) :
    get (exec (mkdirsSteps base rel) s) q = some (.reg c) ↔ get s q = some (.reg c) := by
  unfold mkdirsSteps
  generalize (List.range rel.length) = l
  induction l generalizing s with
  | nil => rfl
  | cons a r ih => rw [List.map_cons, exec_cons, ih, get_mkdir_reg]

theorem mem_walk {s : State β} {root p : Path} (h : p ∈ walk s root) :
    root <+: p ∧ ∃ c, get s p = some (.reg c) := by
  obtain ⟨e, _, he⟩ := List.mem_filterMap.mp h
  split at he
  · next hc =>
    cases he
    rw [Bool.and_eq_true, List.isPrefixOf_iff_prefix, isReg] at hc
    obtain ⟨h1, h2⟩ := hc
    split at h2
    · next c hg => exact ⟨h1, c, hg⟩
    · cases h2
  · cases he

/-! ### Listing facts: steps that write elsewhere do not change `children` / `walk`; entries never vanish
under `mkdir/create/append/close` -/

/-- not `rename` / `remove` -/
def Step.simple : Step β → Bool
  | .rename _ _ => false
  | .remove _ => false
  | _ => true

theorem step_simple (s : State β) (st : Step β) (h : st.simple = true) :
    step s st = s ∨ ∃ q f, q ∈ st.tgt ∧ step s st = set s q f := by
  cases st with
  | mkdir p | append p ch =>
    rw [step]
    split
    · exact .inr ⟨p, _, List.mem_singleton_self p, rfl⟩
    · exact .inl rfl
  | create p => exact .inr ⟨p, _, List.mem_singleton_self p, rfl⟩
  | close p => exact .inl rfl
  | rename | remove => cases h

/-- No `rename` / `remove`, and every path that may change satisfies `Q`. -/
def Writes (steps : List (Step β)) (Q : Path → Prop) : Prop := ∀ st ∈ steps, st.simple = true ∧ ∀ q ∈ st.tgt, Q q

theorem Writes.mono {steps : List (Step β)} {Q Q' : Path → Prop} (h : Writes steps Q) (hQ : ∀ q, Q q → Q' q) :
    Writes steps Q' :=
  fun st hst => ⟨(h st hst).1, fun q hq => hQ q ((h st hst).2 q hq)⟩

theorem Writes.append {a b : List (Step β)} {Q : Path → Prop} (ha : Writes a Q) (hb : Writes b Q) : Writes (a ++ b) Q :=
  fun st hst => (List.mem_append.mp hst).elim (ha st) (hb st)

theorem Writes.take {steps : List (Step β)} {Q : Path → Prop} (h : Writes steps Q) (k : Nat) : Writes (steps.take k) Q :=
  fun st hst => h st (List.mem_of_mem_take hst)

theorem writeSteps_tgt (p : Path) (b : List β) : Writes (writeSteps p b) (· = p) := by
  intro st hst
  simp only [writeSteps, List.mem_cons, List.not_mem_nil, or_false] at hst
  rcases hst with rfl | rfl | rfl | rfl <;> simp [Step.tgt, Step.simple]

theorem mkdirsSteps_tgt (base rel : Path) :
    Writes (mkdirsSteps base rel : List (Step β)) (fun q => ∃ i, q = base ++ rel.take (i + 1)) := by
  intro st hst
  simp only [mkdirsSteps, List.mem_map] at hst
  obtain ⟨i, _, rfl⟩ := hst
  exact ⟨rfl, fun q hq => ⟨i, List.mem_singleton.mp hq⟩⟩

theorem map_fst_set (s : State β) (q : Path) (f : File β) :
    (set s q f).map (·.1) = s.map (·.1) ++ if q ∈ s.map (·.1) then [] else [q] := by
  induction s with
  | nil => rfl
  | cons e r ih =>
    rw [set]
    by_cases h : e.1 = q
    · simp [h]
    · simp only [if_neg h, List.map_cons, ih, List.cons_append, List.mem_cons, Ne.symm h, false_or]

theorem filterMap_key {γ : Type} (F : Path → Option γ) (s : State β) :
    s.filterMap (fun e => F e.1) = (s.map (·.1)).filterMap F := by
  rw [List.filterMap_map]
  rfl

theorem filterMap_set {γ : Type} (F : Path → Option γ) (s : State β) (q : Path) (f : File β) (hF : F q = none) :
    (set s q f).filterMap (fun e => F e.1) = s.filterMap (fun e => F e.1) := by
  rw [filterMap_key, filterMap_key, map_fst_set, List.filterMap_append]
  split <;> simp [hF]

theorem children_set {s : State β} {p q : Path} {f : File β} (h : ¬ p <+: q) :
    children (set s q f) p = children s p := by
  have hq : q.dropLast ≠ p := fun e => h (e ▸ List.dropLast_prefix q)
  exact filterMap_set (fun k => if k.dropLast = p then k.getLast? else none) s q f (by simp [hq])

theorem get_ne_none_iff (s : State β) (q : Path) : get s q ≠ none ↔ q ∈ s.map (·.1) := by
  induction s with
  | nil => simp [get]
  | cons e r ih =>
    rw [get, List.map_cons, List.mem_cons]
    by_cases h : e.1 = q
    · simp [h]
    · rw [if_neg h, ih]
      simp [Ne.symm h]

theorem child_eq_some (k p : Path) (n : Name) :
    (if k.dropLast = p then k.getLast? else none) = some n ↔ k = p ++ [n] := by
  constructor
  · intro h
    split at h
    · rename_i hd
      obtain ⟨ys, rfl⟩ := List.getLast?_eq_some_iff.mp h
      rw [← hd, List.dropLast_concat]
    · cases h
  · rintro rfl
    rw [List.dropLast_concat, if_pos rfl, List.getLast?_concat]

theorem mem_children_iff {s : State β} {p : Path} {n : Name} : n ∈ children s p ↔ get s (p ++ [n]) ≠ none := by
  rw [get_ne_none_iff, children, List.mem_filterMap, List.mem_map]
  simp only [child_eq_some]

theorem mem_children_set {s : State β} {p : Path} (q : Path) (f : File β) {n : Name} (h : n ∈ children s p) :
    n ∈ children (set s q f) p := by
  rw [mem_children_iff] at h ⊢
  rw [get_set]
  split
  · exact Option.some_ne_none f
  · exact h

/-- `walk` with the enumerated list and the looked-up state separated -/
def walkAux (t s : State β) (root : Path) : List Path :=
  t.filterMap (fun e => if root.isPrefixOf e.1 && isReg s e.1 then some e.1 else none)

theorem walk_set {s : State β} {root q : Path} {f : File β} (h : ¬ root <+: q) :
    walk (set s q f) root = walk s root := by
  have hq : root.isPrefixOf q = false := Bool.eq_false_iff.mpr (mt List.isPrefixOf_iff_prefix.mp h)
  -- the looked-up state first: `q` is consulted only for keys below `root`
  have hlook : walkAux (set s q f) (set s q f) root = walkAux (set s q f) s root := by
    unfold walkAux
    congr 1
    funext e
    by_cases hp : root <+: e.1
    · have : q ≠ e.1 := fun he => h (he ▸ hp)
      simp [isReg, get_set, this]
    · simp [Bool.eq_false_iff.mpr (mt List.isPrefixOf_iff_prefix.mp hp)]
  exact hlook.trans (filterMap_set (fun k => if root.isPrefixOf k && isReg s k then some k else none) s q f
    (by simp [hq]))

/-- Simple steps are `set`s at their targets (`step_simple`). -/
theorem exec_induct {Q : Path → Prop} {P : State β → Prop} (hset : ∀ t q f, Q q → P t → P (set t q f))
    (steps : List (Step β)) (s : State β) (h : Writes steps Q) (h0 : P s) :
    P (exec steps s) := by
  induction steps generalizing s with
  | nil => exact h0
  | cons a r ih =>
    obtain ⟨hs, ht⟩ := h a (List.mem_cons_self ..)
    refine ih _ (fun st hst => h st (List.mem_cons_of_mem _ hst)) ?_
    rcases step_simple s a hs with he | ⟨q, f, hq, he⟩
    · rwa [he]
    · rw [he]
      exact hset s q f (ht q hq) h0

theorem mem_children_exec {Q : Path → Prop} {steps : List (Step β)} {s : State β} {p : Path} {n : Name}
    (h : Writes steps Q) (hn : n ∈ children s p) : n ∈ children (exec steps s) p :=
  exec_induct (P := fun t => n ∈ children t p) (fun _ q f _ => mem_children_set q f) steps s h hn

end HedVerif.FS
