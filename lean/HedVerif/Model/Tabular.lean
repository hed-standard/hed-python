/-
Model of the FILE layer of `SpreadsheetValidator.validate` (hed/validator/spreadsheet_validator.py)
with `BaseInput.needs_sorting/series_a/dataframe_a` (hed/models/base_input.py),
`df_util.sort_dataframe_by_onsets/split_delay_tags/filter_series_by_onset`, `HedString.from_hed_strings`
and the context labelling of `ErrorHandler` (push/pop context, `add_context_and_filter`, `sort_issues`).

String-level validation is NOT modelled here: it enters as an `Oracle` (what `run_basic_checks`,
`run_full_string_checks`, `check_for_banned_tags`, the parse of a `delay/`-bearing string and the top-level
temporal groups give for a given text).  The model decides WHICH strings get WHICH checks, how they are
labelled, skipped, sorted, split into time points and fed to the temporal machine (`Temporal.run`).

Naming of rows.  The index labels of a DataFrame are distinct; the model names the rows of the processed
(possibly onset-sorted) frame by their POSITION `p` in it and keeps the list `labs` of their index labels
(= original 0-based row numbers).  Wherever the code uses the numeric value of a label
(`row_number + row_adj`, `original_index + row_adj`, `onset_mask.iloc[row_number]`) the model uses `labs[p]`.
`invalid_original_rows` and `original_index` are sets/columns of labels in the code and of positions here.

Times are integers (the harness draws onsets and delays on a 1/8 s grid and scales by 8); `none` = a
non-numeric onset (NaN after `pd.to_numeric(errors='coerce')`).
-/
import HedVerif.Model.Temporal
import HedVerif.Model.Tok
namespace HedVerif.Tabular
open HedVerif.Temporal (Marker)

abbrev Str := List Char

/-- exceptions the modelled code can raise -/
inductive PyExc where
  | typeError | valueError | indexError
deriving Repr, DecidableEq, Inhabited

/-- an issue as a string-level check reports it: internal kind (`code:error_type`) and severity
(1 = error, 10 = warning) -/
structure RIssue where
  kind : Str
  sev : Nat
deriving Repr, DecidableEq, Inhabited

/-- `check_for_any_errors`: `issue['severity'] < ErrorSeverity.WARNING` -/
def RIssue.isError (i : RIssue) : Bool := decide (i.sev < 10)
def anyError (l : List RIssue) : Bool := l.any RIssue.isError

/-- `tag.value_as_default_unit()` of a top-level Delay tag: a number, `None` (no/invalid unit, no value),
or `float(...)` raising ValueError (non-numeric value) -/
inductive DVal where
  | num (k : Int) | none | bad
deriving Repr, DecidableEq, Inhabited

/-- one top-level child of a parsed string: `str(child)` and, for a group `find_top_level_tags({"delay"})`
returns, the Delay value -/
structure Item where
  text : Str
  delay : Option DVal
deriving Repr, DecidableEq, Inhabited

structure Oracle where
  /-- `HedValidator.run_basic_checks(HedString(cell), allow_placeholders=False)` -/
  cell : Str → List RIssue
  /-- `run_full_string_checks` of `HedString.from_hed_strings(cells)` with this joined text (`_run_checks`) -/
  full : Str → List RIssue
  /-- `run_full_string_checks` of `HedString(text, schema, def_validator)` (`_run_onset_checks`) -/
  pfull : Str → List RIssue
  /-- `OnsetValidator.check_for_banned_tags` ("temporal tags need a time") -/
  banned : Str → List RIssue
  /-- `none` iff `"delay/" not in text.casefold()`, else the top-level children of `HedString(text)` -/
  items : Str → Option (List Item)
  /-- top-level temporal groups (kind, Def extension) of `HedString(text)` in `validate_temporal_relations` order -/
  markers : Str → List Marker
  fold : Str → Str

structure Row where
  /-- numeric onset, `none` if not numeric (ignored when the file has no onset column) -/
  onset : Option Int
  /-- the row of `dataframe_a` (assembled HED-bearing columns) -/
  cells : List Str
  /-- raw values of the categorical columns (`Cfg.catCols` order) -/
  cats : List Str
deriving Repr, DecidableEq, Inhabited

structure Cfg where
  /-- 1, +1 if the file has column names -/
  rowAdj : Nat
  hasOnset : Bool
  /-- column names of `dataframe_a` -/
  columns : List Str
  /-- categorical columns of `column_metadata()`: name and `hed_dict.keys()` -/
  catCols : List (Str × List Str)
  /-- `ColumnMapper.check_for_mapping_issues()` (as data) -/
  mapIssues : List RIssue
  /-- `get_column_refs()` and `base_input.columns` -/
  refs : List Str
  allColumns : List Str
  /-- `true` (hed-python since 5f67eab): the onset mask is taken per assembled row; `false`: `iloc[label]` of the
  time-point frame's mask, as before that commit -/
  maskByRow : Bool
  /-- `true` (hed-python since 563e3e0): a Delay group without usable value or numeric onset stays in its row; `false`:
  `split_delay_tags` raises on it, as before that commit -/
  guardDelay : Bool
  /-- for an integer column label of `dataframe_a` its value (`columns` then holds its `str()`); `none` / absent for
  a string label -/
  colIdx : List (Option Nat) := []
  kKey : RIssue
  kRef : RIssue
  kUnordered : RIssue
  kTemporal : Temporal.Err → RIssue
  o : Oracle

/-- a pandas column label as `ec_column` carries it: a string (file with a header line) or an integer
(`has_column_names=False`: the columns are addressed by position).  `0`, `"0"` and `""` are three different labels. -/
inductive ColLabel where
  | name (s : Str)
  | idx (n : Nat)
deriving Repr, DecidableEq, Inhabited

/-- where an issue was produced (`p` = position in the processed frame, `k` = original row) -/
inductive Src where
  | mapping | ref | unordered
  | key (k c : Nat)
  | cell (p c : Nat)
  | row (p : Nat)
  | point (p : Nat)
  | temporal (p : Nat)
deriving Repr, DecidableEq, Inhabited

structure Issue where
  kind : Str
  sev : Nat
  /-- `ec_row`; holds the position `p` until `relabel` -/
  row : Option Nat
  /-- `ec_column` -/
  col : Option Str
  /-- text of the HED_STRING context -/
  text : Str
  src : Src
deriving Repr, DecidableEq, Inhabited

def mk (e : RIssue) (row : Option Nat) (col : Option Str) (text : Str) (src : Src) : Issue :=
  { kind := e.kind, sev := e.sev, row := row, col := col, text := text, src := src }

def na : Str := ['n', '/', 'a']

/-- `if not cell or cell == "n/a": continue` -/
def isSkip (c : Str) : Bool := c.isEmpty || c == na

def joinWith (sep : Str) : List Str → Str
  | [] => []
  | [x] => x
  | x :: y :: r => x ++ sep ++ joinWith sep (y :: r)

/-- the cells of a row that are looked at: (column number, column name, text) -/
def liveFrom (i : Nat) : List Str → List Str → List (Nat × Str × Str)
  | c :: cs, x :: xs => if isSkip x then liveFrom (i + 1) cs xs else (i, c, x) :: liveFrom (i + 1) cs xs
  | _, _ => []

def live (cfg : Cfg) (r : Row) : List (Nat × Str × Str) := liveFrom 0 cfg.columns r.cells

/-- text of `HedString.from_hed_strings(row_strings)`: `",".join` -/
def rowText (cfg : Cfg) (r : Row) : Str := joinWith [','] ((live cfg r).map (·.2.2))

/-- `combine_dataframe`: `', '.join` of the same cells -/
def seriesText (cfg : Cfg) (r : Row) : Str := joinWith [',', ' '] ((live cfg r).map (·.2.2))

/-- `_get_org_span_from_strings`: start of the `i`-th string inside the joined text
(`string_start_index += string.span[1] + 1`) -/
def startOf : List Str → Nat → Nat
  | _, 0 => 0
  | [], _ => 0
  | x :: xs, i + 1 => x.length + 1 + startOf xs i

def remapSpan (cells : List Str) (i : Nat) (span : Nat × Nat) : Nat × Nat :=
  (span.1 + startOf cells i, span.2 + startOf cells i)

/-! ### the tree of `HedString.from_hed_strings`: the cells' trees side by side, spans remapped -/

mutual
/-- a node of cell `i` seen from the joined string (`_get_org_span_from_strings`) -/
def shiftNode (o : Nat) : Node → Node
  | .tag a b => .tag (a + o) (b + o)
  | .group a b kids => .group (a + o) (b + o) (shiftList o kids)
def shiftList (o : Nat) : List Node → List Node
  | [] => []
  | n :: ns => shiftNode o n :: shiftList o ns
end

mutual
/-- a tree as a flat code (for comparing trees; `Node` is a nested inductive) -/
def nodeCode : Node → List Nat
  | .tag a b => [0, a, b]
  | .group a b kids => [1, a, b] ++ listCode kids ++ [2]
def listCode : List Node → List Nat
  | [] => []
  | n :: ns => nodeCode n ++ listCode ns
end

def concatFrom (all : List Str) : Nat → List Str → List Node
  | _, [] => []
  | i, c :: cs => shiftList (startOf all i) (Tree.construct c) ++ concatFrom all (i + 1) cs

/-- `contents = [child for sub_string in hed_strings for child in sub_string.children]`: each cell parsed on its own
(a cell with unbalanced parentheses has no children) -/
def concatTrees (cells : List Str) : List Node := concatFrom cells 0 cells

/-- the tree of the joined text parsed as one string -/
def joinedTree (cells : List Str) : List Node := Tree.construct (joinWith [','] cells)

def sameTree (cells : List Str) : Bool := listCode (concatTrees cells) == listCode (joinedTree cells)

/-! ### `_run_checks`, one row -/

structure RowRes where
  issues : List Issue
  invalid : Bool
deriving Repr

/-- "the row has a time": its onset cell parses as a number (`~pd.isna(pd.to_numeric(onset, errors='coerce'))`; the
`n/a` cell, any other text, and `nan` do not).  The SINGLE source for both passes: `_run_checks` leaves exactly these rows
to the onset pass (`onset_mask`), and `split_delay_tags` / `_indexed_dict_from_onsets` keep exactly these rows' text. -/
def hasTime (r : Row) : Bool := r.onset.isSome

/-- `new_column_issues` after the cell loop: the issues of the LAST looked-at cell -/
def lastCellIssues (cfg : Cfg) (r : Row) : List RIssue :=
  match (live cfg r).getLast? with
  | none => []
  | some c => cfg.o.cell c.2.2

/-- the label object `columns[column_number]` pushed as COLUMN context -/
def labelOf (cfg : Cfg) (c : Nat) (name : Str) : ColLabel :=
  match (cfg.colIdx[c]?).join with
  | some n => .idx n
  | none => .name name

/-- `ec_column` with its type: `col` is the `str()` of the label (the key `sort_issues` compares); for a cell issue
the label object is that of column number `c` -/
def Issue.label (cfg : Cfg) (i : Issue) : Option ColLabel :=
  match i.src, i.col with
  | .cell _ c, some name => some (labelOf cfg c name)
  | _, some name => some (.name name)
  | _, none => none

def cellIssues (cfg : Cfg) (p : Nat) (r : Row) : List Issue :=
  (live cfg r).flatMap fun c => (cfg.o.cell c.2.2).map fun e =>
    mk e (some p) (some c.2.1) c.2.2 (.cell p c.1)

/-- does the row reach `onset_mask.iloc[row_number]` -/
def reaches (cfg : Cfg) (r : Row) : Bool := !anyError (lastCellIssues cfg r) && !(live cfg r).isEmpty

def checkRow (cfg : Cfg) (onsetLike : Bool) (p : Nat) (r : Row) : RowRes :=
  if anyError (lastCellIssues cfg r) then ⟨cellIssues cfg p r, true⟩
  else if (live cfg r).isEmpty || onsetLike then ⟨cellIssues cfg p r, false⟩
  else
    let s := rowText cfg r
    ⟨cellIssues cfg p r ++ (cfg.o.full s ++ cfg.o.banned s).map (fun e => mk e (some p) none s (.row p)), false⟩

/-! ### sorting (`sort_dataframe_by_onsets`), generic in the payload; same algorithm as `Temporal.sortRows` -/

def insertT {β} (x : Int × β) : List (Int × β) → List (Int × β)
  | [] => [x]
  | y :: ys => if x.1 ≤ y.1 then x :: y :: ys else y :: insertT x ys

def sortT {β} : List (Int × β) → List (Int × β)
  | [] => []
  | x :: xs => insertT x (sortT xs)

def enumF {α} : Nat → List α → List (Nat × α)
  | _, [] => []
  | n, x :: xs => (n, x) :: enumF (n + 1) xs

/-- `is_monotonic_increasing` of the coerced onsets (any NaN: False) -/
def monotone : List (Option Int) → Bool
  | [] => true
  | [x] => x.isSome
  | x :: y :: r => (match x, y with | some a, some b => decide (a ≤ b) | _, _ => false) && monotone (y :: r)

def needsSorting (cfg : Cfg) (T : List Row) : Bool := cfg.hasOnset && !monotone (T.map (·.onset))

def numeric (F : List (Nat × Row)) : List (Int × Nat × Row) := F.filterMap fun kr => kr.2.onset.map (·, kr)
def nans (F : List (Nat × Row)) : List (Nat × Row) := F.filter fun kr => kr.2.onset.isNone

/-- the sorted copy: numeric onsets ascending, NaN last; index labels kept -/
def sortFrame (F : List (Nat × Row)) : List (Nat × Row) := (sortT (numeric F)).map (·.2) ++ nans F

def frame (cfg : Cfg) (T : List Row) : List (Nat × Row) :=
  if needsSorting cfg T then sortFrame (enumF 0 T) else enumF 0 T

/-! ### `split_delay_tags` -/

def rowItems (cfg : Cfg) (r : Row) : List Item := (cfg.o.items (seriesText cfg r)).getD []

/-- `tag.value_as_default_unit() + float(onsets[i])`: what it raises -/
def groupExc (onset : Option Int) : DVal → Option PyExc
  | .bad => some .valueError
  | .num _ => if onset.isNone then some .valueError else none
  | .none => if onset.isNone then some .valueError else some .typeError

def usable (onset : Option Int) : DVal → Option Int
  | .num v => onset.map (· + v)
  | _ => none

/-- first exception of the loop over `delay_strings` -/
def delayExc (cfg : Cfg) (R : List Row) : Option PyExc :=
  if cfg.guardDelay then none
  else (R.flatMap fun r => (rowItems cfg r).filterMap fun it => it.delay.bind (groupExc r.onset)).head?

def isMoved (onset : Option Int) (it : Item) : Bool :=
  match it.delay with
  | some d => (usable onset d).isSome
  | none => false

/-- HED text the row keeps: unchanged if no `delay/`, else `str(delay_string)` after the removals -/
def ownText (cfg : Cfg) (r : Row) : Str :=
  match cfg.o.items (seriesText cfg r) with
  | none => seriesText cfg r
  | some its => joinWith [','] ((its.filter (fun it => !isMoved r.onset it)).map (·.text))

/-- appended rows, one per moved Delay group: (time, `str(group)`, original row) -/
def movedRows (cfg : Cfg) (p : Nat) (r : Row) : List (Int × Str × Nat) :=
  (rowItems cfg r).filterMap fun it =>
    match it.delay with
    | some d => (usable r.onset d).map fun t => (t, it.text, p)
    | none => none

/-- the rows that have a time, with the HED text they keep: the row's own contribution to the time points -/
def ownFrame (cfg : Cfg) (R : List Row) : List (Int × Str × Nat) :=
  (enumF 0 R).filterMap fun pr => pr.2.onset.map fun t => (t, ownText cfg pr.2, pr.1)   -- `some` iff `hasTime`

/-- numeric rows of `split_df` before sorting: the rows themselves, then the appended ones -/
def splitFrame (cfg : Cfg) (R : List Row) : List (Int × Str × Nat) :=
  ownFrame cfg R ++
  (enumF 0 R).flatMap (fun pr => movedRows cfg pr.1 pr.2)

/-- `filter_series_by_onset`: consecutive rows with the same time: the first gets the `","`-joined text,
the others stay in the frame with an empty text -/
def mergeF : List (Int × Str × Nat) → List (Int × Str × Nat)
  | [] => []
  | x :: xs =>
    match mergeF xs with
    | [] => [x]
    | y :: ys =>
      if x.1 = y.1 then (x.1, x.2.1 ++ [','] ++ y.2.1, x.2.2) :: (y.1, [], y.2.2) :: ys else x :: y :: ys

/-- numeric part of the time-point frame (the NaN rows follow it, with empty HED) -/
def timeFrame (cfg : Cfg) (R : List Row) : List (Int × Str × Nat) := mergeF (sortT (splitFrame cfg R))

/-! ### `_run_onset_checks` -/

def livePoints (invalid : List Nat) (tf : List (Int × Str × Nat)) : List (Str × Nat) :=
  (tf.filter fun x => !x.2.1.isEmpty && !invalid.contains x.2.2).map (·.2)

def pointPass (cfg : Cfg) (invalid : List Nat) (tf : List (Int × Str × Nat)) : List Issue :=
  let pts := livePoints invalid tf
  pts.flatMap (fun sp => (cfg.o.pfull sp.1).map fun e => mk e (some sp.2) none sp.1 (.point sp.2)) ++
  (Temporal.run cfg.o.fold [] 0 (pts.map fun sp => cfg.o.markers sp.1)).filterMap fun te =>
    pts[te.1]?.map fun sp => mk (cfg.kTemporal te.2.2) (some sp.2) none sp.1 (.temporal sp.2)

/-! ### `_validate_column_structure` (on the unsorted file) -/

def keyIssuesFrom (cfg : Cfg) (k : Nat) (c : Nat) : List (Str × List Str) → List Str → List Issue
  | (name, keys) :: cs, v :: vs =>
    (if v != na && !keys.contains v then [mk cfg.kKey (some (k + cfg.rowAdj)) (some name) [] (.key k c)] else []) ++
      keyIssuesFrom cfg k (c + 1) cs vs
  | _, _ => []

def structIssues (cfg : Cfg) (T : List Row) : List Issue :=
  cfg.mapIssues.map (fun e => mk e none none [] .mapping) ++
  (enumF 0 T).flatMap (fun kr => keyIssuesFrom cfg kr.1 0 cfg.catCols kr.2.cats) ++
  (cfg.refs.filter fun x => !cfg.allColumns.contains x).map (fun _ => mk cfg.kRef none none [] .ref)

/-! ### `sort_issues`: stable, by (row, column) -/

def strLe : Str → Str → Bool
  | [], _ => true
  | _ :: _, [] => false
  | a :: as, b :: bs => if a.toNat < b.toNat then true else if b.toNat < a.toNat then false else strLe as bs

def issueLe (a b : Issue) : Bool :=
  let ra := (a.row.map (· + 1)).getD 0
  let rb := (b.row.map (· + 1)).getD 0
  if ra < rb then true else if rb < ra then false else strLe (a.col.getD []) (b.col.getD [])

def insertI (x : Issue) : List Issue → List Issue
  | [] => [x]
  | y :: ys => if issueLe x y then x :: y :: ys else y :: insertI x ys

def sortIssues : List Issue → List Issue
  | [] => []
  | x :: xs => insertI x (sortIssues xs)

/-- position → `label + row_adj` -/
def relabel (labs : List Nat) (adj : Nat) (i : Issue) : Issue :=
  { i with row := i.row.map fun p => labs[p]?.getD 0 + adj }

/-! ### `validate` -/

/-- issues of `_run_checks` + `_run_onset_checks`, rows named by position -/
def rowPhase (cfg : Cfg) (onsetLike : Nat × Row → Bool) (R : List Row) : List RowRes :=
  (enumF 0 R).map fun pr => checkRow cfg (onsetLike pr) pr.1 pr.2

def invalidRows (rr : List RowRes) : List Nat :=
  (enumF 0 rr).filterMap fun pr => if pr.2.invalid then some pr.1 else none

/-- `_run_checks` then `_run_onset_checks` over the processed frame's rows (named by position) -/
def core (cfg : Cfg) (onsetLike : Nat × Row → Bool) (R : List Row) : List Issue :=
  let rr := rowPhase cfg onsetLike R
  rr.flatMap (·.issues) ++ (if cfg.hasOnset then pointPass cfg (invalidRows rr) (timeFrame cfg R) else [])

def unorderedIssues (cfg : Cfg) (T : List Row) : List Issue :=
  if needsSorting cfg T then [mk cfg.kUnordered none none [] .unordered] else []

/-- all issues, labelled and sorted -/
def assemble (cfg : Cfg) (T : List Row) (onsetLike : Nat × Row → Bool) : List Issue :=
  let F := frame cfg T
  sortIssues (structIssues cfg T ++ unorderedIssues cfg T ++
    (core cfg onsetLike (F.map (·.2))).map (relabel (F.map (·.1)) cfg.rowAdj))

def validate (cfg : Cfg) (T : List Row) : Except PyExc (List Issue) :=
  let F := frame cfg T
  let labs := F.map (·.1)
  let R := F.map (·.2)
  if cfg.hasOnset then
    match delayExc cfg R with
    | some e => .error e
    | none =>
      let tf := timeFrame cfg R
      -- `onset_mask` has one entry per row of the time-point frame: numeric rows first, NaN rows last
      let maskLen := tf.length + (R.filter (·.onset.isNone)).length
      let lab := fun (p : Nat) => labs[p]?.getD 0
      if !cfg.maskByRow && (enumF 0 R).any (fun pr => reaches cfg pr.2 && decide (maskLen ≤ lab pr.1)) then
        .error .indexError
      else
        .ok (assemble cfg T fun pr =>
          if cfg.maskByRow then hasTime pr.2 else decide (lab pr.1 < tf.length))
  else
    .ok (assemble cfg T fun _ => false)

end HedVerif.Tabular
