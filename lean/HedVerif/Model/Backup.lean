/-
Model of `hed/tools/remodeling/backup_manager.py` (`BackupManager`), of the backup-related part of
`cli/run_remodel.py` (`handle_backup`, `main`) and of `Dispatcher.get_data_file`, on the step model of
`Model/FS.lean`.

File content alphabet `Sym`: data files are lists of `byte`s; the backup record `backup_lock.json`
is a list of *lexed* JSON characters (one symbol per written character; characters inside a JSON
string are tagged `s c`, so `s '}'` is not a closing brace).  A byte prefix of the real record
corresponds to a prefix of the symbol list, because JSON lexing is left-to-right.
File names are arbitrary code points (`json.dump` with `ensure_ascii`: `\uXXXX`, surrogate pairs, `\n`...;
`"` and `\` as two symbols); paths are normalised component lists (no `..`, no symlinks).
`parse` rejects every proper prefix of a rendered record (`C18.torn_record_rejected`), which is all a crashed
`create_backup` can leave; that it reads a complete record back is checked on examples only.
No Mathlib imports: linked into the native driver.
-/
import HedVerif.Model.FS
namespace HedVerif.Backup
open HedVerif.FS

inductive Sym where
  | byte (n : Nat)
  | lb | rb | q | colon | comma | sp | nl
  | s (c : Char)
deriving DecidableEq, Repr, Inhabited

abbrev St := State Sym
/-- A record key: the `'/'.join(...)` of the path components relative to the data root. -/
abbrev Key := List Char

inductive Err where
  | badBackupPath | badBackupFormat | badDictPath | badRootPath     -- HedFileError codes of the scan
  | isADirectory | jsonDecode                                       -- `open` / `json.load` failures
  | missingBackupFile | extraFiles                                  -- HedFileError codes of the scan
  | noBackup | backupDoesNotExist | backupExists | badDataFile                     -- HedFileError codes of restore/remodel
  | fileNotFound                                                    -- `shutil.copy2` of a missing file
deriving DecidableEq, Repr, Inhabited

def lockName : Name := ['b', 'a', 'c', 'k', 'u', 'p', '_', 'l', 'o', 'c', 'k', '.', 'j', 's', 'o', 'n']
def rootName : Name := ['b', 'a', 'c', 'k', 'u', 'p', '_', 'r', 'o', 'o', 't']

/-- `data_root`, `backups_path` (already real-pathed), backup name, time stamp text. -/
structure Cfg where
  dataRoot : Path
  backups : Path
  name : Name
  stamp : List Char := []

namespace Cfg
def bdir (c : Cfg) : Path := c.backups ++ [c.name]
def broot (c : Cfg) : Path := c.backups ++ [c.name, rootName]
def lock (c : Cfg) : Path := c.backups ++ [c.name, lockName]
/-- `get_backup_path` -/
def bpath (c : Cfg) (f : Path) : Path := c.broot ++ f
/-- `get_backup_files(original_paths=True)` -/
def dpath (c : Cfg) (f : Path) : Path := c.dataRoot ++ f
end Cfg

/-! ### Keys (`get_file_key`) -/

def joinKey : Path → Key
  | [] => []
  | [a] => a
  | a :: r => a ++ '/' :: joinKey r

/-- `os.path.join(root, key)` + `realpath`: split on `/`, empty components vanish. -/
def splitKey (k : Key) : Path :=
  (k.foldr (fun ch acc => if ch = '/' then [] :: acc else
      match acc with | [] => [[ch]] | h :: t => (ch :: h) :: t) [[]]).filter (fun x => !x.isEmpty)

/-! ### The record text (`json.dump(backup, fp, indent=4)`) -/

def hexDigit (n : Nat) : Char :=
  if n < 10 then Char.ofNat (48 + n) else Char.ofNat (87 + n)

/-- `\\uXXXX` for one UTF-16 code unit -/
def u4 (n : Nat) : List Sym :=
  [.s '\\', .s 'u', .s (hexDigit (n / 4096 % 16)), .s (hexDigit (n / 256 % 16)), .s (hexDigit (n / 16 % 16)),
   .s (hexDigit (n % 16))]

/-- `json.encoder.py_encode_basestring_ascii`: everything outside `' '..'~'` is escaped; astral
characters become a surrogate pair. -/
def escape (ch : Char) : List Sym :=
  if ch = '"' ∨ ch = '\\' then [.s '\\', .s ch]
  else if ' ' ≤ ch ∧ ch ≤ '~' then [.s ch]
  else if ch = '\n' then [.s '\\', .s 'n']
  else if ch = '\r' then [.s '\\', .s 'r']
  else if ch = '\t' then [.s '\\', .s 't']
  else if ch.toNat = 8 then [.s '\\', .s 'b']
  else if ch.toNat = 12 then [.s '\\', .s 'f']
  else if ch.toNat < 65536 then u4 ch.toNat
  else u4 (55296 + (ch.toNat - 65536) / 1024) ++ u4 (56320 + (ch.toNat - 65536) % 1024)
def strToks (k : List Char) : List Sym := k.flatMap escape

def entry (ts : List Char) (k : Key) : List Sym :=
  [.nl, .sp, .sp, .sp, .sp, .q] ++ strToks k ++ [.q, .colon, .sp, .q] ++ strToks ts ++ [.q]

def entries (ts : List Char) : List Key → List Sym
  | [] => []
  | [k] => entry ts k
  | k :: r => entry ts k ++ .comma :: entries ts r

/-- Everything before the closing brace. -/
def recordBody (ts : List Char) (ks : List Key) : List Sym :=
  if ks.isEmpty then [.lb] else .lb :: entries ts ks ++ [.nl]

def record (ts : List Char) (ks : List Key) : List Sym := recordBody ts ks ++ [.rb]

/-! ### Reading the record (`json.load`) -/

def skipWs : List Sym → List Sym
  | .sp :: r => skipWs r
  | .nl :: r => skipWs r
  | r => r

/-- After an opening quote: raw characters up to the closing quote. -/
def readStr : List Sym → Option (List Char × List Sym)
  | .q :: r => some ([], r)
  | .s c :: r => match readStr r with | some (k, r') => some (c :: k, r') | none => none
  | _ => none

def hexVal (ch : Char) : Nat :=
  if '0' ≤ ch ∧ ch ≤ '9' then ch.toNat - 48
  else if 'a' ≤ ch ∧ ch ≤ 'f' then ch.toNat - 87
  else if 'A' ≤ ch ∧ ch ≤ 'F' then ch.toNat - 55 else 0

/-- JSON string body -> UTF-16 code units / code points -/
def decodeUnits : List Char → List Nat
  | '\\' :: 'u' :: a :: b :: c :: d :: r =>
    (hexVal a * 4096 + hexVal b * 256 + hexVal c * 16 + hexVal d) :: decodeUnits r
  | '\\' :: c :: r =>
    (if c = 'n' then 10 else if c = 'r' then 13 else if c = 't' then 9 else if c = 'b' then 8
     else if c = 'f' then 12 else c.toNat) :: decodeUnits r
  | c :: r => c.toNat :: decodeUnits r
  | [] => []

def combine : List Nat → List Char
  | hi :: lo :: r =>
    if 55296 ≤ hi ∧ hi < 56320 ∧ 56320 ≤ lo ∧ lo < 57344
    then Char.ofNat (65536 + (hi - 55296) * 1024 + (lo - 56320)) :: combine r
    else Char.ofNat hi :: combine (lo :: r)
  | [n] => [Char.ofNat n]
  | [] => []

def unescape (k : List Char) : List Char := combine (decodeUnits k)

def parseEntries : Nat → List Sym → Option (List Key)
  | 0, _ => none
  | n + 1, t =>
    match skipWs t with
    | .q :: r =>
      match readStr r with
      | some (k, r1) =>
        match skipWs r1 with
        | .colon :: r2 =>
          match skipWs r2 with
          | .q :: r3 =>
            match readStr r3 with
            | some (_, r4) =>
              match skipWs r4 with
              | .comma :: r5 => (parseEntries n r5).map (fun ks => unescape k :: ks)
              | [.rb] => some [unescape k]
              | _ => none
            | none => none
          | _ => none
        | _ => none
      | none => none
    | _ => none

def parseObj : List Sym → Option (List Key)
  | .lb :: r => match skipWs r with
    | [.rb] => some []
    | r' => parseEntries r.length r'
  | _ => none

/-- `json.load` of the record: `none` = `JSONDecodeError`.  A JSON object text ends with `}`. -/
def parse (c : List Sym) : Option (List Key) :=
  if c.getLast? = some .rb then parseObj c else none

/-! ### `create_backup` as primitive steps -/

def srcOf (c : Cfg) (s0 : St) (f : Path) : List Sym :=
  match get s0 (c.dpath f) with | some (.reg b) => b | _ => []

/-- `os.makedirs(dirname(backup_file)); shutil.copy2(file, backup_file)` -/
def perFile (c : Cfg) (s0 : St) (f : Path) : List (Step Sym) :=
  mkdirsSteps c.backups ([c.name, rootName] ++ f.dropLast) ++ writeSteps (c.bpath f) (srcOf c s0 f)

/-- `os.makedirs(backup_root)` and the loop over `file_list`. -/
def copyPhase (c : Cfg) (s0 : St) (files : List Path) : List (Step Sym) :=
  mkdirsSteps c.backups [c.name, rootName] ++ files.flatMap (perFile c s0)

def recordOf (c : Cfg) (files : List Path) : List Sym := record c.stamp ((files.map joinKey).eraseDups)

/-- `with open(lock,'w') as fp: json.dump(backup, fp, indent=4)` -/
def lockPhase (c : Cfg) (files : List Path) : List (Step Sym) := writeSteps c.lock (recordOf c files)

/-- All primitive steps of `create_backup(file_list, name)` when `name` is not listed:
copies first, the record last. -/
def createSteps (c : Cfg) (s0 : St) (files : List Path) : List (Step Sym) :=
  copyPhase c s0 files ++ lockPhase c files

abbrev Listing := List (Name × List Key)

/-- `create_backup`: `(returned bool, steps)`; a listed name returns `False` before any I/O. -/
def create (c : Cfg) (listing : Listing) (s : St) (files : List Path) : Bool × List (Step Sym) :=
  if listing.any (fun e => e.1 == c.name) then (false, []) else (true, createSteps c s files)

/-! ### The consistency scan (`_get_backups` / `_check_backup_consistency`) -/

def scanOne (s : St) (backups : Path) (n : Name) : Except Err (List Key) :=
  let bdir := backups ++ [n]
  let broot := backups ++ [n, rootName]
  if !isDir s bdir then .error .badBackupPath
  else if (children s bdir).length != 2 then .error .badBackupFormat
  else match get s (backups ++ [n, lockName]) with
    | none => .error .badDictPath
    | some f =>
      if !isDir s broot then .error .badRootPath
      else match f with
        | .dir => .error .isADirectory
        | .reg txt => match parse txt with
          | none => .error .jsonDecode
          | some ks =>
            let bpaths := ks.map (fun k => broot ++ splitKey k)
            let fpaths := walk s broot
            if fpaths.any (fun p => !bpaths.contains p) then .error .missingBackupFile
            else if bpaths.any (fun p => !fpaths.contains p) then .error .extraFiles
            else .ok ks

def scanList (s : St) (backups : Path) : List Name → Except Err Listing
  | [] => .ok []
  | e :: r => match scanOne s backups e with
    | .error x => .error x
    | .ok ks => match scanList s backups r with
      | .error x => .error x
      | .ok l => .ok ((e, ks) :: l)

/-- `BackupManager(data_root)._get_backups()`: an error means the manager cannot be constructed. -/
def scan (s : St) (backups : Path) : Except Err Listing := scanList s backups (children s backups)

/-! ### Restore and remodel (whole operations, no crash inside) -/

def isInfix (a : List Char) : List Char → Bool
  | [] => a.isEmpty
  | ch :: r => a.isPrefixOf (ch :: r) || isInfix a r

/-- truthiness of `BackupManager.get_task(task_names, path)`: the *first* task whose `task_<name>` occurs in
the base name is returned, and an empty name is falsy (so `['', 'go']` never selects anything that
contains `task_`). -/
def getTask (tasks : List Name) (base : Name) : Bool :=
  match tasks.find? (fun t => isInfix (['t', 'a', 's', 'k', '_'] ++ t) base) with
  | some t => !t.isEmpty
  | none => false

/-- The `continue` test of `restore_backup`. -/
def picked (tasks : List Name) (f : Path) : Bool := tasks.isEmpty || getTask tasks (f.getLastD [])

/-- For every picked file: data file := `g` (backup copy).  `g = id`: `restore_backup`;
`g = T`: the remodel loop (`get_data_file` reads the backup copy, `to_csv` writes the data file). -/
def copyMap (c : Cfg) (g : List Sym → List Sym) (pick : Path → Bool) : List Path → St → Except Err St
  | [], s => .ok s
  | f :: r, s =>
    if pick f then
      match get s (c.bpath f) with
      | some (.reg b) => copyMap c g pick r (set s (c.dpath f) (.reg (g b)))
      | _ => .error .fileNotFound
    else copyMap c g pick r s

/-- `restore_backup(name, task_names)`; `fs` = the recorded keys as paths. -/
def restore (c : Cfg) (fs : List Path) (tasks : List Name) (s : St) : Except Err St :=
  if fs.isEmpty then .error .noBackup else copyMap c id (picked tasks) fs s

def toLower (ch : Char) : Char := if 'A' ≤ ch ∧ ch ≤ 'Z' then Char.ofNat (ch.toNat + 32) else ch

/-- `get_file_list(data_dir, name_suffix='events', extensions=['.tsv'], exclude_dirs=['remodel'])` -/
def selKey (f : Path) : Bool :=
  f.dropLast.all (fun d => d != ['r', 'e', 'm', 'o', 'd', 'e', 'l']) &&
    ((f.getLastD []).map toLower).reverse.take 10 == ['e', 'v', 'e', 'n', 't', 's', '.', 't', 's', 'v'].reverse

def dropExt (b : Name) : Name :=
  let r := b.reverse
  match r.findIdx? (· == '.') with
  | some i => if (r.drop (i + 1)).any (· != '.') then (r.drop (i + 1)).reverse else b
  | none => b

def strip (b : Name) : Name := ((b.dropWhile (· == ' ')).reverse.dropWhile (· == ' ')).reverse

def afterTask : List Char → List Char → Option (List Char)      -- lowercased view, original view
  | [], _ => none
  | l :: ls, o => if ['t', 'a', 's', 'k', '-'].isPrefixOf (l :: ls) then some (o.drop 5)
                  else afterTask ls (o.drop 1)

/-- `io_util.get_task_from_file`: the BIDS task entity (`task-<name>` up to `_` or `.`) of a file name. -/
def bidsTask (base : Name) : Name :=
  let stem := strip (dropExt base)
  match afterTask (stem.map toLower) stem with
  | some r => r.takeWhile (fun ch => ch != '_' && ch != '.')
  | none => []

/-- `parse_tasks`: which selected files a run with `-t tasks` rewrites (`*` first = every file with a task) -/
def taskOk (tasks : List Name) (f : Path) : Bool :=
  tasks.isEmpty ||
    (let t := bidsTask (f.getLastD [])
     !t.isEmpty && (tasks.head? == some ['*'] || tasks.contains t))

/-- restore the picked files, then rewrite the chosen files from their backup copies. -/
def remodelCore (c : Cfg) (T : List Sym → List Sym) (pick1 pick2 : Path → Bool) (fs : List Path) (s : St) :
    Except Err St :=
  match copyMap c id pick1 fs s with
  | .error e => .error e
  | .ok s1 => copyMap c T pick2 fs s1

def relTo (root p : Path) : Path := p.drop root.length

/-- which recorded files a run rewrites: selected by name, of a requested BIDS task, and present in the
data tree `s1` (the state after `handle_backup`'s restore) - `get_file_list` only sees existing files -/
def rewritten (c : Cfg) (tasks : List Name) (s1 : St) (f : Path) : Bool :=
  selKey f && taskOk tasks f && isReg s1 (c.dpath f)

/-- `run_remodel.main` (default options, `-t tasks`): `handle_backup` restores the files picked by
`task_<t>`, then every selected *existing* data file of the requested BIDS tasks (`task-<t>`) is
rewritten from its backup copy (`BadDataFile` if it has none).  Without `-t` everything is restored
first, so every recorded selected file exists and is rewritten. -/
def remodel (c : Cfg) (T : List Sym → List Sym) (fs : List Path) (tasks : List Name) (s : St) : Except Err St :=
  if fs.isEmpty then .error .backupDoesNotExist else
  match copyMap c id (picked tasks) fs s with
  | .error e => .error e
  | .ok s1 =>
    if ((walk s1 c.dataRoot).map (relTo c.dataRoot)).any (fun f => selKey f && taskOk tasks f && !fs.contains f)
    then .error .badDataFile
    else copyMap c T (rewritten c tasks s1) fs s1

/-! ### Restore and remodel as primitive steps (for crashes inside them) -/

/-- For every picked file with a backup copy: (`os.makedirs(dirname)`;) create; half; rest; close of the data
file.  Contents are read from `s`: the steps never write below the backup directory. -/
def copySteps (c : Cfg) (g : List Sym → List Sym) (mk : Bool) (pick : Path → Bool) : List Path → St → List (Step Sym)
  | [], _ => []
  | f :: r, s =>
    if pick f then
      match get s (c.bpath f) with
      | some (.reg b) =>
        (if mk then mkdirsSteps c.dataRoot f.dropLast else []) ++ writeSteps (c.dpath f) (g b) ++ copySteps c g mk pick r s
      | _ => []
    else copySteps c g mk pick r s

/-- `restore_backup(name, tasks)` -/
def restoreSteps (c : Cfg) (fs : List Path) (tasks : List Name) (s : St) : List (Step Sym) :=
  copySteps c id true (picked tasks) fs s

/-- `run_remodel.main`: the restore, then `df.to_csv(file_path)` for the files of `order` (the order in
which `get_file_list`/`parse_tasks` deliver them). -/
def remodelSteps (c : Cfg) (T : List Sym → List Sym) (fs : List Path) (tasks : List Name) (order : List Path)
    (s : St) : List (Step Sym) :=
  restoreSteps c fs tasks s ++ copySteps c T false (fun _ => true) order s

inductive Op where
  | modify (p : Path) (b : List Sym)     -- overwrite / create a data file
  | delete (p : Path)                    -- remove a file or a whole directory
  | restore (tasks : List Name)
  | remodel (tasks : List Name)
  | restoreCrash (tasks : List Name) (k : Nat)                        -- a restore interrupted after k steps
  | remodelCrash (tasks : List Name) (order : List Path) (k : Nat)    -- a remodel run interrupted after k steps
deriving Repr

def applyOp (c : Cfg) (T : List Sym → List Sym) (fs : List Path) (s : St) : Op → Except Err St
  | .modify p b => .ok (set s p (.reg b))
  | .delete p => .ok (delTree s p)
  | .restore tasks => restore c fs tasks s
  | .remodel tasks => remodel c T fs tasks s
  | .restoreCrash tasks k => .ok (crashAfter k (restoreSteps c fs tasks s) s)
  | .remodelCrash tasks order k => .ok (crashAfter k (remodelSteps c T fs tasks order s) s)

def runOps (c : Cfg) (T : List Sym → List Sym) (fs : List Path) : List Op → St → Except Err St
  | [], s => .ok s
  | o :: r, s => match applyOp c T fs s o with
    | .error e => .error e
    | .ok s' => runOps c T fs r s'

/-- An operation that does not write into the backup directory (restore/remodel, complete or
interrupted, never do, given the recorded files live outside it). -/
def Op.safe (c : Cfg) : Op → Prop
  | .modify p _ => ¬ c.bdir <+: p
  | .delete p => ¬ c.bdir <+: p ∧ ¬ p <+: c.bdir
  | .remodelCrash _ order _ => ∀ f ∈ order, ¬ c.bdir <+: c.dpath f
  | _ => True

/-! ### Histories on the level of whole backups: one manager object, re-opened managers, several names -/

/-- `backups_dict.get(name)`; NB the record may be `[]` (a backup made from an empty file selection):
the name still EXISTS - `create`'s guard is `name in backups_dict`, not truthiness of the record. -/
def lookup (m : Listing) (n : Name) : Option (List Key) := (m.find? (fun e => e.1 == n)).map (·.2)

/-- `run_remodel_restore.main` / `handle_backup`: the CLI tests `if not get_backup(name)` first, so an
empty record is reported as `BackupDoesNotExist` (the API call reports `NoBackup`). -/
def restoreCli (c : Cfg) (fs : List Path) (tasks : List Name) (s : St) : Except Err St :=
  if fs.isEmpty then .error .backupDoesNotExist else restore c fs tasks s

/-- `run_remodel_backup.main`: a fresh manager; `if backup_man.get_backup(name)` (truthiness of the RECORD)
raises `BackupExists`; otherwise `create_backup` is called, whose own guard (`name in backups_dict`)
still refuses an existing name with an empty record - silently, returning `False`. -/
def createCli (c : Cfg) (m : Listing) (s : St) (files : List Path) : Except Err (Bool × List (Step Sym)) :=
  match lookup m c.name with
  | some (_ :: _) => .error .backupExists
  | _ => .ok (create c m s files)

inductive BOp where
  | create (name : Name) (files : List Path)   -- `manager.create_backup(files, name)`, any selection incl. `[]`
  | reopen                                     -- a fresh `BackupManager(data_root)` replaces the manager
  | restore (name : Name) (tasks : List Name)  -- `manager.restore_backup(name, tasks)`
  | modify (p : Path) (b : List Sym)           -- a data file is overwritten / created
deriving Repr

/-- state of a session: the manager's dictionary and the file system -/
def bstep (c : Cfg) (ms : Listing × St) : BOp → Listing × St
  | .create n files =>
    let r := create { c with name := n } ms.1 ms.2 files
    if r.1 then (ms.1 ++ [(n, (files.map joinKey).eraseDups)], exec r.2 ms.2) else ms
  | .reopen => match scan ms.2 c.backups with
    | .ok l => (l, ms.2)
    | .error _ => ms          -- the constructor raises; the old manager stays in use
  | .restore n tasks => match lookup ms.1 n with
    | some ks => match restore { c with name := n } (ks.map splitKey) tasks ms.2 with
      | .ok s' => (ms.1, s')
      | .error _ => ms        -- `NoBackup` (empty record) raises before any copy
    | none => ms
  | .modify p b => (ms.1, set ms.2 p (.reg b))

def brun (c : Cfg) (h : List BOp) (ms : Listing × St) : Listing × St := h.foldl (bstep c) ms

/-- side conditions of a session, checked where they arise: data files that are written, and the files
recorded in a backup that is restored, live outside the backups directory. -/
def BOp.ok (c : Cfg) (ms : Listing × St) : BOp → Prop
  | .restore n _ => ∀ ks, lookup ms.1 n = some ks → ∀ k ∈ ks, ¬ c.backups <+: c.dataRoot ++ splitKey k
  | .modify p _ => ¬ c.backups <+: p
  | _ => True

def BOk (c : Cfg) : List BOp → Listing × St → Prop
  | [], _ => True
  | o :: r, ms => o.ok c ms ∧ BOk c r (bstep c ms o)

end HedVerif.Backup
