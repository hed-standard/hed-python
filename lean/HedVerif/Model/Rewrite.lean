/-
Rewrites of an annotation (property C04) over the full validator model `Model/Validate.lean`:
what is observed, and when two parsed annotations count as "the same annotation written differently".

* `errCodes`  — the observable of C04: the published codes of the error-severity issues.
* `Core`      — two resolved tags that the schema-based rules cannot tell apart (namespace, entry,
                value/extension; the original text too when unresolved); spans and the spelling of a
                resolved tag are free.
* `NodeSim R` / `ForestSim R` — two resolved trees of the same shape whose tags are related by `R`
                and whose sibling lists are permutations of each other, at every level (spans free).
* `SpanDistinct` — siblings have distinct spans (true of every parse; the temporal rule identifies
                the Def and the anchor among the members of a group by their spans).
* `Blank`     — texts related by inserting/deleting U+0020 next to a delimiter or at the ends.
* `toDup`     — the translation of a resolved tree into the trees of `Model/Dup.lean`.
* `SameTag`, `Respelled`, `TagRel` — the relations between the tags of two parses (reordering/spacing: the
                same tag elsewhere; spelling: tags the rules cannot tell apart) and what such a relation must
                respect for the whole validator to agree.
* `ParsedWF`, `textIssues`, `DefsOK`, `GVSim`, `mkTagW` — bookkeeping of the proofs.
The relations on abstract forests (`ANodeSim`, `RespellText`) and the inductive `C04.Rewrite` on texts use
`ATree` of `Props/C02.lean` and are defined in `Props/C04/Phases.lean` and `Props/C04/Texts.lean`.
Definitions only; the theorems are in the modules under `Props/C04/`.
-/
import HedVerif.Model.Validate
import HedVerif.Model.Dup

namespace HedVerif.Rewrite
open HedVerif HedVerif.Validate

/-! ### observables -/

/-- code and severity of one issue: what `check_for_any_errors` and the caller's code list look at -/
def sig (i : Issue) : Str × Nat := (i.code, i.sev)
def sigs (l : List Issue) : List (Str × Nat) := l.map sig

/-- the observable of C04: codes of the issues of error severity -/
def errCodes (l : List Issue) : List Str := codes (errors l)

/-! ### tags and trees -/

structure Core (t t' : RTag) : Prop where
  ns : t'.ns = t.ns
  entry : t'.entry = t.entry
  ext : t'.extVal = t.extVal
  org : t.entry = none → t'.org = t.org

mutual
/-- same shape, tags related by `R`, members of every group permuted (spans free) -/
def NodeSim (R : RTag → RTag → Prop) : RNode → RNode → Prop
  | .tag t, .tag t' => R t t'
  | .group _ ks, .group _ ks' => ∃ m, PointSim R ks m ∧ m.Perm ks'
  | .tag _, .group _ _ => False
  | .group _ _, .tag _ => False
/-- position by position -/
def PointSim (R : RTag → RTag → Prop) : List RNode → List RNode → Prop
  | [], [] => True
  | k :: ks, k' :: ks' => NodeSim R k k' ∧ PointSim R ks ks'
  | [], _ :: _ => False
  | _ :: _, [] => False
end

/-- top level: position by position, then a permutation -/
def ForestSim (R : RTag → RTag → Prop) (l l' : List RNode) : Prop := ∃ m, PointSim R l m ∧ m.Perm l'

mutual
/-- siblings (members of one group, or of the top level) have pairwise distinct spans, at every level -/
def SpanDistinctNode : RNode → Prop
  | .tag _ => True
  | .group _ ks => SpanDistinct ks ∧ (ks.map nodeSpan).Nodup
def SpanDistinct : List RNode → Prop
  | [] => True
  | k :: ks => SpanDistinctNode k ∧ SpanDistinct ks
end

mutual
/-- the start positions of a resolved node and of everything below it; in a parse they are pairwise distinct
(`C04.construct_starts_nodup`), which is how the code's identity tests (`is`) read in the model -/
def rstartsNode : RNode → List Nat
  | .tag t => [t.span.1]
  | .group s ks => s.1 :: rstartsList ks
def rstartsList : List RNode → List Nat
  | [] => []
  | k :: ks => rstartsNode k ++ rstartsList ks
end

/-- the forest with its own sibling list -/
def SpansOK (l : List RNode) : Prop := SpanDistinct l ∧ (l.map nodeSpan).Nodup

/-! ### texts -/

/-- one U+0020 inserted right after or right before a delimiter (`,` `(` `)`), or at either end.
(Repeating the step gives runs of blanks; a blank next to a blank *inside a tag* is not a step: it would
change the tag.) -/
inductive BlankStep : Str → Str → Prop
  | start (s : Str) : BlankStep s (' ' :: s)
  | stop (s : Str) : BlankStep s (s ++ [' '])
  | after (a b : Str) (d : Char) (hd : Tok.isDelim d = true) : BlankStep (a ++ d :: b) (a ++ d :: ' ' :: b)
  | before (a b : Str) (d : Char) (hd : Tok.isDelim d = true) : BlankStep (a ++ d :: b) (a ++ ' ' :: d :: b)

/-- blanks inserted or deleted next to delimiters and at the ends, any number of times -/
inductive Blank : Str → Str → Prop
  | refl (s : Str) : Blank s s
  | ins {s s' : Str} : BlankStep s s' → Blank s s'
  | del {s s' : Str} : BlankStep s s' → Blank s' s
  | trans {a b c : Str} : Blank a b → Blank b c → Blank a c

/-! ### translation into the trees of `Model/Dup.lean` -/

/-- a resolved tag as the duplicate rule sees it: `str(tag)`, its case-folded form, the folded source text -/
def toDupTag (env : Env) (t : RTag) : Dup.Tag := ⟨strOf env t, fold (strOf env t), fold t.org⟩

mutual
def toDup (env : Env) : RNode → Dup.Tree
  | .tag t => .tag (toDupTag env t)
  | .group _ ks => .grp (toDupL env ks)
def toDupL (env : Env) : List RNode → List Dup.Tree
  | [] => []
  | k :: ks => toDup env k :: toDupL env ks
end

/-- published code of a duplicate issue of `Model/Dup.lean` -/
def dupCode : Dup.Kind → Str
  | .tag => Kind.tagRepeated.code
  | .grp => Kind.groupRepeated.code

/-! ### relations between the tags of two parses -/

/-- the same tag up to its position in the text (reordering, spacing) -/
def SameTag (t t' : RTag) : Prop := t'.org = t.org ∧ t'.ns = t.ns ∧ t'.entry = t.entry ∧ t'.extVal = t.extVal

/-- what a relation between the tags of two parses must respect for the whole validator to agree:
the schema-based rules see `Core`; phases 1 and 2 read the text of the tag itself -/
structure TagRel (env : Env) (R : RTag → RTag → Prop) : Prop where
  core : ∀ t t', R t t' → Core t t'
  slash : ∀ t t', R t t' → errCodes (slashIssues t) = errCodes (slashIssues t')
  chars : ∀ t t', R t t' → ∀ ph, errCodes (tagCharIssues env ph t) = errCodes (tagCharIssues env ph t')
  recanon : ∀ t t', R t t' → R (canon env t).1 (canon env t').1
  lookup : ∀ t t', R t t' → errCodes (canon env t).2 = errCodes (canon env t').2

/-- a respelled tag: the two spellings resolve alike (`Core`: same namespace, entry, value — C03), the
character and slash rules say the same about both texts ("the same characters class-wise"), and looking a
resolved tag up again changes nothing -/
structure Respelled (env : Env) (t t' : RTag) : Prop where
  core : Core t t'
  slash : errCodes (slashIssues t) = errCodes (slashIssues t')
  chars : ∀ ph, errCodes (tagCharIssues env ph t) = errCodes (tagCharIssues env ph t')
  stable : (canon env t).1 = t ∧ (canon env t').1 = t'

/-- `p` is what `parse` builds from its first tree -/
def ParsedWF (env : Env) (p : Parsed) : Prop :=
  p.root1 = (recanonList env p.root0).1 ∧ p.lookup = (recanonList env p.root0).2

/-- the rules that read the raw text only -/
def textIssues (env : Env) (ph : Bool) (text : Str) : List Issue :=
  charIssues env ph text ++ parenIssues text ++ delimIssues env.cd text

/-- the definitions in use expand to admissible tags -/
def DefsOK (env : Env) (P : Dup.Tag → Prop) : Prop :=
  ∀ t rest, defExpansion env t = .ok rest → ∀ x ∈ tagsList rest, P (toDupTag env x)

/-- two entries of `get_all_groups`: same flags, related members -/
def GVSim (R : RTag → RTag → Prop) (g g' : GV) : Prop :=
  g.isGroup = g'.isGroup ∧ g.isTop = g'.isTop ∧ ForestSim R g.kids g'.kids

/-- `HedTag(text)` at a span -/
def mkTagW (env : Env) (w : Str) (sp : Nat × Nat) : RTag := (canon env ⟨sp, w, Schema.namespaceOf w, none, []⟩).1

end HedVerif.Rewrite
