/-
C20 — Temporal context of every event equals the set of processes ongoing at that time.
Theorems about `HedVerif.Events` (model of `EventManager`), for all histories.
-/
import HedVerif.Model.Events
import HedVerif.Props.C10
namespace HedVerif.C20
open HedVerif.Events

/-- row `i` is the first row of the time point `t` of the onsets `ts` -/
def First (ts : List Int) (i : Nat) (t : Int) : Prop :=
  ts[i]? = some t ∧ ∀ j x, j < i → ts[j]? = some x → x < t

abbrev Sorted (ts : List Int) : Prop := ts.Pairwise (· ≤ ·)

theorem insertRow_eq (x : FRow) (l : List FRow) : insertRow x l = SortBy.insertBy (·.time) x l := by
  induction l with
  | nil => rfl
  | cons y ys ih => rw [insertRow, SortBy.insertBy, ih]

theorem sortRows_eq (l : List FRow) : sortRows l = SortBy.sortBy (·.time) l := by
  induction l with
  | nil => rfl
  | cons x xs ih => rw [sortRows, SortBy.sortBy, ih, insertRow_eq]

theorem sorted_sortRows (l : List FRow) : (sortRows l).Pairwise (fun a b => a.time ≤ b.time) :=
  sortRows_eq l ▸ SortBy.sortBy_sorted _ l

theorem mem_sortRows (x : FRow) (l : List FRow) : x ∈ sortRows l ↔ x ∈ l :=
  (sortRows_eq l ▸ SortBy.sortBy_perm _ l).mem_iff

theorem frame_sorted (rows : List Row) : Sorted ((frame rows).map (·.time)) := by
  unfold Sorted frame
  rw [List.pairwise_map]
  exact sorted_sortRows _

theorem sorted_idx {ts : List Int} (hs : Sorted ts) {i j : Nat} {x y : Int} (hij : i ≤ j)
    (hx : ts[i]? = some x) (hy : ts[j]? = some y) : x ≤ y := by
  rcases Nat.eq_or_lt_of_le hij with rfl | hlt
  · rw [hx] at hy; injection hy with e; omega
  · obtain ⟨hi, rfl⟩ := List.getElem?_eq_some_iff.1 hx
    obtain ⟨hj, rfl⟩ := List.getElem?_eq_some_iff.1 hy
    exact (List.pairwise_iff_getElem.1 hs) i j hi hj hlt

theorem lt_first_iff {ts : List Int} (hs : Sorted ts) {e i : Nat} {te τ : Int}
    (he : First ts e te) (hi : ts[i]? = some τ) : i < e ↔ τ < te :=
  ⟨fun h => he.2 i τ h hi, fun h => Nat.lt_of_not_le fun hn => Int.not_le.2 h (sorted_idx hs hn he.1 hi)⟩

theorem first_lt_iff_later {ts : List Int} (hs : Sorted ts) {s i : Nat} {σ τ : Int}
    (hσ : First ts s σ) (hi : ts[i]? = some τ) (hn : ¬ First ts i τ) : s < i ↔ σ ≤ τ := by
  constructor
  · intro h; exact sorted_idx hs (Nat.le_of_lt h) hσ.1 hi
  · intro h
    refine Nat.lt_of_le_of_ne (Nat.le_of_not_lt fun hlt => Int.not_lt.2 h (hσ.2 i τ hlt hi)) ?_
    rintro rfl
    exact hn (Option.some.inj (hσ.1.symm.trans hi) ▸ hσ)

theorem first_eq_iff {ts : List Int} {s i : Nat} {σ τ : Int} (hσ : First ts s σ) (hi : First ts i τ) :
    s = i ↔ σ = τ := by
  constructor
  · rintro rfl
    exact Option.some.inj (hσ.1.symm.trans hi.1)
  · rintro rfl
    exact Nat.le_antisymm (Nat.le_of_not_lt fun h => Int.lt_irrefl σ (hσ.2 i σ h hi.1))
      (Nat.le_of_not_lt fun h => Int.lt_irrefl σ (hi.2 s σ h hσ.1))

theorem lt_bisect_iff {ts : List Int} (hs : Sorted ts) {i : Nat} {τ : Int} (x : Int)
    (hi : ts[i]? = some τ) : i < bisectLeft ts x ↔ τ < x := by
  induction ts generalizing i with
  | nil => simp at hi
  | cons t rest ih =>
    have hs := List.pairwise_cons.1 hs
    rw [bisectLeft, List.takeWhile_cons]
    cases i with
    | zero =>
      cases Option.some.inj hi
      by_cases htx : τ < x <;> simp [htx]
    | succ k =>
      rw [List.getElem?_cons_succ] at hi
      have hle := hs.1 τ (List.mem_of_getElem? hi)
      by_cases htx : t < x
      · simpa [htx, bisectLeft] using ih hs.2 hi
      · simp only [htx, decide_false, Bool.false_eq_true, if_false, List.length_nil]
        omega

theorem bisect_all {ts : List Int} {y : Int} (h : ∀ x ∈ ts, x < y) : bisectLeft ts y = ts.length := by
  induction ts with
  | nil => rfl
  | cons t rest ih =>
    have ht := h t (List.mem_cons_self ..)
    have := ih (fun x hx => h x (List.mem_cons_of_mem _ hx))
    unfold bisectLeft at this ⊢
    simp [ht, this]

theorem ltInf_first_iff {ts : List Int} (hs : Sorted ts) {τ : Int} (x : Int) (hτ : τ ∈ ts) :
    ltInf τ (firstAtOrAfter ts x) = true ↔ τ < x := by
  induction ts with
  | nil => cases hτ
  | cons t rest ih =>
    have hs := List.pairwise_cons.1 hs
    rw [firstAtOrAfter, List.find?_cons]
    by_cases hxt : x ≤ t
    · have : τ = t ∨ t ≤ τ := (List.mem_cons.1 hτ).imp_right (hs.1 τ)
      simp only [hxt, decide_true, ltInf, decide_eq_true_eq]
      omega
    · simp only [hxt, decide_false]
      rcases List.mem_cons.1 hτ with rfl | h
      · have hx : τ < x := Int.lt_of_not_ge hxt
        cases hf : rest.find? (fun t => decide (x ≤ t)) with
        | none => exact iff_of_true rfl hx
        | some y =>
          have hy : x ≤ y := of_decide_eq_true (List.find?_some (p := fun t => decide (x ≤ t)) hf)
          exact iff_of_true (decide_eq_true (Int.lt_of_lt_of_le hx hy)) hx
      · exact ih hs.2 h

theorem mem_rowActs {i : Nat} {r : FRow} {a : Act} :
    a ∈ rowActs i r ↔
      a.idx = i ∧ a.time = r.time ∧ a.item ∈ r.items ∧ (isMarker a.item = true ∨ isDuration a.item = true) := by
  obtain ⟨j, t, it⟩ := a
  simp only [rowActs, List.mem_map, List.mem_append, List.mem_filter, Act.mk.injEq]
  constructor
  · rintro ⟨it', hit, rfl, rfl, rfl⟩
    exact ⟨rfl, rfl, hit.elim (·.1) (·.1), hit.imp (·.2) (·.2)⟩
  · rintro ⟨rfl, rfl, hit, hk⟩
    exact ⟨it, hk.imp (⟨hit, ·⟩) (⟨hit, ·⟩), rfl, rfl, rfl⟩

theorem mem_actsFrom {k : Nat} {l : List FRow} {a : Act} :
    a ∈ actsFrom k l ↔ ∃ j r, l[j]? = some r ∧ a ∈ rowActs (k + j) r := by
  induction l generalizing k with
  | nil => simp [actsFrom]
  | cons r rs ih =>
    rw [actsFrom, List.mem_append, ih]
    constructor
    · rintro (h | ⟨j, r', hj, h⟩)
      · exact ⟨0, r, rfl, h⟩
      · exact ⟨j + 1, r', hj, (by omega : k + 1 + j = k + (j + 1)) ▸ h⟩
    · rintro ⟨j, r', hj, h⟩
      cases j with
      | zero => exact Or.inl (Option.some.inj hj ▸ h)
      | succ j => exact Or.inr ⟨j, r', hj, (by omega : k + (j + 1) = k + 1 + j) ▸ h⟩

/-- `pre` are the times of the rows already passed, `prev` the time of the last of them: a row takes the items
of its time point unless its time is `prev`, and then no earlier row has its time. -/
theorem acts_first_gen (rows : List FRow) (pre : List Int) (prev : Option Int)
    (hpre : ∀ x ∈ pre, ∀ r ∈ rows, x < r.time ∨ prev = some r.time)
    (hs : rows.Pairwise (fun a b => a.time ≤ b.time)) :
    ∀ a ∈ actsFrom pre.length (merge prev rows), First (pre ++ rows.map (·.time)) a.idx a.time := by
  induction rows generalizing pre prev with
  | nil => intro a ha; cases ha
  | cons r rs ih =>
    intro a ha
    rw [List.pairwise_cons] at hs
    simp only [merge, actsFrom, List.mem_append] at ha
    rcases ha with ha | ha
    · obtain ⟨hidx, htime, hitem, _⟩ := mem_rowActs.1 ha
      by_cases hp : prev = some r.time
      · rw [if_pos hp] at hitem
        cases hitem
      · rw [hidx, htime]
        refine ⟨by simp, fun j x hj hx => ?_⟩
        rw [List.getElem?_append_left hj] at hx
        exact (hpre x (List.mem_of_getElem? hx) r (List.mem_cons_self ..)).resolve_right hp
    · have := ih (pre ++ [r.time]) (some r.time) (fun x hx r' hr' => ?_) hs.2 a (by simpa using ha)
      · simpa using this
      · have hle := hs.1 r' hr'
        rcases List.mem_append.1 hx with hx | hx
        · rcases hpre x hx r (List.mem_cons_self ..) with h | h
          · exact Or.inl (by omega)
          · rcases hpre x hx r' (List.mem_cons_of_mem _ hr') with h' | h'
            · exact Or.inl h'
            · exact Or.inr (h.symm.trans h')
        · rw [List.mem_singleton.1 hx]
          rcases Int.lt_or_eq_of_le hle with h | h
          · exact Or.inl h
          · exact Or.inr (congrArg some h)

/-- every temporal group is processed at the first row of its own time point -/
theorem acts_first (rows : List Row) :
    ∀ a ∈ history rows, First ((frame rows).map (·.time)) a.idx a.time :=
  acts_first_gen (frame rows) [] none (fun _ h => nomatch h) (sorted_sortRows _)

/-! ## the dictionary scan computes "until the next marker of the same name" -/

/-- the next Onset/Offset group of the folded name `k` -/
def nextMark (fold : Str → Str) (k : Str) : List Act → Option Act
  | [] => none
  | a :: rest => if markerKey fold a.item = some k then some a else nextMark fold k rest

def stopOr (n : Nat) : Option Act → Nat
  | none => n
  | some a => a.idx

/-- processes by look-ahead: an Onset process ends at the row of the next marker of its name, else at `n` -/
def look (fold : Str → Str) (ts : List Int) (n : Nat) : Nat → List Act → List Proc
  | _, [] => []
  | c, a :: rest =>
    match a.item with
    | .onset name cid =>
      ⟨c, a.idx, some (stopOr n (nextMark fold (fold name) rest)), fold name, cid⟩ :: look fold ts n (c + 1) rest
    | .duration len cid =>
      ⟨c, a.idx, some (bisectLeft ts (a.time + len)), [], cid⟩ :: look fold ts n (c + 1) rest
    | _ => look fold ts n c rest

/-- what the rest of the scan does to a process that is still open -/
def resolve (fold : Str → Str) (n : Nat) (acts : List Act) (p : Proc) : Proc :=
  match p.stop with
  | none => { p with stop := some (stopOr n (nextMark fold p.key acts)) }
  | some _ => p

def closeMap (j i : Nat) (p : Proc) : Proc := if p.ord = j then { p with stop := some i } else p

theorem setStop_eq (j i : Nat) (ps : List Proc) : setStop j i ps = ps.map (closeMap j i) := rfl

theorem closeMap_ord (j i : Nat) (p : Proc) : (closeMap j i p).ord = p.ord := by
  unfold closeMap
  split <;> rfl

theorem closeMap_key (j i : Nat) (p : Proc) : (closeMap j i p).key = p.key := by
  unfold closeMap
  split <;> rfl

theorem closeMap_stop_none (j i : Nat) (p : Proc) :
    (closeMap j i p).stop = none ↔ p.stop = none ∧ p.ord ≠ j := by
  unfold closeMap
  split
  · next h => simp [h]
  · next h => simp [h]

/-- invariant of the scan: `onset_dict` holds exactly the processes whose end is not yet set -/
structure Inv (st : State) : Prop where
  i1 : ∀ p ∈ st.procs, p.stop = none → (p.key, p.ord) ∈ st.opn
  i2 : ∀ e ∈ st.opn, ∀ p ∈ st.procs, p.ord = e.2 → p.stop = none ∧ p.key = e.1
  i3 : ∀ e ∈ st.opn, e.2 < st.procs.length
  i4 : st.opn.Pairwise (fun a b => a.1 ≠ b.1)
  i5 : ∀ p ∈ st.procs, p.ord < st.procs.length

theorem getOpen_some {k : Str} {j : Nat} {o : Open} (h : getOpen k o = some j) : (k, j) ∈ o := by
  obtain ⟨e, he, rfl⟩ := Option.map_eq_some_iff.1 h
  have hk : (e.1 == k) = true := List.find?_some (p := fun e : Str × Nat => e.1 == k) he
  exact beq_iff_eq.1 hk ▸ List.mem_of_find?_eq_some he

theorem getOpen_none {k : Str} {o : Open} (h : getOpen k o = none) : ∀ j, (k, j) ∉ o := by
  unfold getOpen at h
  intro j hj
  simp at h
  exact h k j hj rfl

theorem key_unique {o : Open} (h4 : o.Pairwise (fun a b => a.1 ≠ b.1)) {k : Str} {j j' : Nat}
    (h : (k, j) ∈ o) (h' : (k, j') ∈ o) : j = j' :=
  List.Pairwise.forall_of_forall_of_flip (R := fun a b : Str × Nat => a.1 = b.1 → a.2 = b.2) (fun _ _ _ => rfl)
    (h4.imp fun hne e => absurd e hne) (h4.imp fun hne e => absurd e.symm hne) h h' rfl

theorem mem_delOpen {k : Str} {o : Open} {e : Str × Nat} : e ∈ delOpen k o ↔ e ∈ o ∧ e.1 ≠ k := by
  simp [delOpen]

theorem resolve_skip {fold : Str → Str} {n : Nat} {a : Act} {rest : List Act} (p : Proc)
    (h : p.stop = none → markerKey fold a.item ≠ some p.key) :
    resolve fold n (a :: rest) p = resolve fold n rest p := by
  unfold resolve
  cases hs : p.stop with
  | some e => rfl
  | none => simp only [nextMark, if_neg (h hs)]

theorem resolve_close {fold : Str → Str} {n : Nat} {st : State} {k : Str} {j : Nat} {a : Act}
    {rest : List Act} {p : Proc} (hinv : Inv st) (hg : getOpen k st.opn = some j)
    (hk : markerKey fold a.item = some k) (hp : p ∈ st.procs) :
    resolve fold n rest (closeMap j a.idx p) = resolve fold n (a :: rest) p := by
  have hkj := getOpen_some hg
  unfold closeMap
  by_cases ho : p.ord = j
  · have := hinv.i2 _ hkj p hp ho
    simp only [ho, if_true]
    unfold resolve
    simp only [this.1, this.2, nextMark, if_pos hk, stopOr]
    simp [ho]
  · rw [if_neg ho, resolve_skip]
    intro hs e
    have hm : (k, p.ord) ∈ st.opn := Option.some.inj (hk.symm.trans e) ▸ hinv.i1 p hp hs
    exact ho (key_unique hinv.i4 hm hkj)

theorem inv_close {st : State} {k : Str} {j i : Nat} (hinv : Inv st) (hg : getOpen k st.opn = some j) :
    Inv ⟨setStop j i st.procs, delOpen k st.opn⟩ := by
  have hkj := getOpen_some hg
  -- among the processes without end, the one of name `k` is the one with identity `j`
  have hj : ∀ p ∈ st.procs, p.stop = none → (p.key = k ↔ p.ord = j) := fun p hp hs =>
    ⟨fun e => key_unique hinv.i4 (e ▸ hinv.i1 p hp hs) hkj, fun e => (hinv.i2 _ hkj p hp e).2⟩
  refine ⟨?_, ?_, ?_, hinv.i4.filter _, ?_⟩ <;>
    simp only [setStop_eq, List.forall_mem_map, List.length_map, mem_delOpen, closeMap_ord, closeMap_key,
      closeMap_stop_none]
  · exact fun p hp ⟨hs, hne⟩ => ⟨hinv.i1 p hp hs, fun e => hne ((hj p hp hs).1 e)⟩
  · intro e ⟨he, hne⟩ p hp ho
    have h2 := hinv.i2 e he p hp ho
    exact ⟨⟨h2.1, fun e' => hne (h2.2 ▸ (hj p hp h2.1).2 e')⟩, h2.2⟩
  · exact fun e he => hinv.i3 e he.1
  · exact hinv.i5

theorem inv_push {st : State} (hinv : Inv st) (i : Nat) (so : Option Nat) (k : Str) (c : Nat)
    (hk : so = none → ∀ j, (k, j) ∉ st.opn) :
    Inv ⟨st.procs ++ [⟨st.procs.length, i, so, k, c⟩],
         match so with | none => (k, st.procs.length) :: st.opn | some _ => st.opn⟩ := by
  have hlt : ∀ e ∈ st.opn, e.2 ≠ st.procs.length := fun e he => Nat.ne_of_lt (hinv.i3 e he)
  have hlt' : ∀ p ∈ st.procs, p.ord ≠ st.procs.length := fun p hp => Nat.ne_of_lt (hinv.i5 p hp)
  cases so with
  | some s =>
    refine ⟨?_, ?_, ?_, hinv.i4, ?_⟩ <;>
      simp only [List.forall_mem_append, List.forall_mem_singleton, List.length_append, List.length_singleton]
    · exact ⟨hinv.i1, fun h => nomatch h⟩
    · exact fun e he => ⟨hinv.i2 e he, fun h => absurd h.symm (hlt e he)⟩
    · exact fun e he => Nat.lt_succ_of_lt (hinv.i3 e he)
    · exact ⟨fun p hp => Nat.lt_succ_of_lt (hinv.i5 p hp), Nat.lt_succ_self _⟩
  | none =>
    refine ⟨?_, ?_, ?_, List.pairwise_cons.2 ⟨fun b hb (e : k = b.1) => hk rfl b.2 (e ▸ hb), hinv.i4⟩, ?_⟩ <;>
      simp only [List.forall_mem_append, List.forall_mem_singleton, List.forall_mem_cons, List.length_append,
        List.length_singleton]
    · exact ⟨fun p hp hs => List.mem_cons_of_mem _ (hinv.i1 p hp hs), fun _ => List.mem_cons_self ..⟩
    · exact ⟨⟨fun p hp h => absurd h (hlt' p hp), fun _ => ⟨trivial, trivial⟩⟩,
        fun e he => ⟨hinv.i2 e he, fun h => absurd h.symm (hlt e he)⟩⟩
    · exact ⟨Nat.lt_succ_self _, fun e he => Nat.lt_succ_of_lt (hinv.i3 e he)⟩
    · exact ⟨fun p hp => Nat.lt_succ_of_lt (hinv.i5 p hp), Nat.lt_succ_self _⟩

theorem inv_init : Inv ⟨[], []⟩ := by constructor <;> simp

theorem foldl_setStop (n : Nat) (o : Open) (ps : List Proc) :
    o.foldl (fun ps e => setStop e.2 n ps) ps =
      ps.map (fun p => if o.any (fun e => e.2 == p.ord) then { p with stop := some n } else p) := by
  induction o generalizing ps with
  | nil => simp
  | cons e es ih =>
    rw [List.foldl_cons, ih, setStop_eq, List.map_map]
    apply List.map_congr_left
    intro p _
    simp only [Function.comp, closeMap, List.any_cons]
    by_cases h : p.ord = e.2
    · simp only [h, if_true, BEq.rfl, Bool.true_or]
      split <;> rfl
    · have : (e.2 == p.ord) = false := by simp; omega
      simp only [h, if_false, this, Bool.false_or]

theorem finish_eq {fold : Str → Str} {n : Nat} {st : State} (hinv : Inv st) :
    finish n st = st.procs.map (resolve fold n []) := by
  unfold finish
  rw [foldl_setStop]
  apply List.map_congr_left
  intro p hp
  unfold resolve
  cases hs : p.stop with
  | none =>
    have := hinv.i1 p hp hs
    have hany : st.opn.any (fun e => e.2 == p.ord) = true := List.any_eq_true.2 ⟨_, this, by simp⟩
    simp [hany, nextMark, stopOr]
  | some e =>
    have hany : st.opn.any (fun e => e.2 == p.ord) = false := by
      refine Bool.eq_false_iff.2 fun h => ?_
      obtain ⟨e', he', heq⟩ := List.any_eq_true.1 h
      have := (hinv.i2 e' he' p hp (beq_iff_eq.1 heq).symm).1
      rw [hs] at this
      cases this
    simp [hany]

theorem resolve_cons_none {fold : Str → Str} {n : Nat} {a : Act} {rest : List Act}
    (h : markerKey fold a.item = none) : resolve fold n (a :: rest) = resolve fold n rest :=
  funext fun p => resolve_skip p fun _ e => by rw [h] at e; cases e

theorem closeIfOpen_spec {fold : Str → Str} {n : Nat} {st : State} {k : Str} {a : Act} {rest : List Act}
    (hinv : Inv st) (hk : markerKey fold a.item = some k) :
    Inv (closeIfOpen k a.idx st) ∧ (∀ j, (k, j) ∉ (closeIfOpen k a.idx st).opn) ∧
    (closeIfOpen k a.idx st).procs.length = st.procs.length ∧
    (closeIfOpen k a.idx st).procs.map (resolve fold n rest) = st.procs.map (resolve fold n (a :: rest)) := by
  unfold closeIfOpen
  cases hg : getOpen k st.opn with
  | none =>
    refine ⟨hinv, getOpen_none hg, rfl, List.map_congr_left fun p hp => (resolve_skip p fun hs e => ?_).symm⟩
    exact getOpen_none hg p.ord (Option.some.inj (hk.symm.trans e) ▸ hinv.i1 p hp hs)
  | some j =>
    refine ⟨inv_close hinv hg, fun j' hj' => (mem_delOpen.1 hj').2 rfl, List.length_map _, ?_⟩
    show (setStop j a.idx st.procs).map _ = _
    rw [setStop_eq, List.map_map]
    exact List.map_congr_left fun p hp => resolve_close hinv hg hk hp

/-- one step keeps the invariant and the processes as they will end up: those made so far, their ends resolved
by what follows, then those the look-ahead finds in what follows -/
theorem step_spec {fold : Str → Str} {ts : List Int} {n : Nat} {st st1 : State} {a : Act}
    (rest : List Act) (hinv : Inv st) (hstep : step fold ts st a = .ok st1) :
    Inv st1 ∧ st1.procs.map (resolve fold n rest) ++ look fold ts n st1.procs.length rest =
      st.procs.map (resolve fold n (a :: rest)) ++ look fold ts n st.procs.length (a :: rest) := by
  unfold step at hstep
  cases hitem : a.item with
  | onset name c =>
    simp only [hitem, Except.ok.injEq] at hstep
    subst hstep
    obtain ⟨hinv1, hkey, hlen, hres⟩ :=
      closeIfOpen_spec (n := n) (rest := rest) hinv (congrArg (markerKey fold) hitem)
    refine ⟨inv_push hinv1 a.idx none (fold name) c (fun _ => hkey), ?_⟩
    simp only [List.map_append, List.map_cons, List.map_nil, List.length_append, List.length_singleton,
      look, hitem, List.append_assoc, hres, hlen]
    rfl
  | offset name =>
    simp only [hitem] at hstep
    cases hg : getOpen (fold name) st.opn with
    | none =>
      rw [hg] at hstep
      cases hstep
    | some j =>
      simp only [hg, Except.ok.injEq] at hstep
      subst hstep
      have hc := closeIfOpen_spec (n := n) (rest := rest) hinv (congrArg (markerKey fold) hitem)
      simp only [closeIfOpen, hg] at hc
      exact ⟨hc.1, by simp only [look, hitem, hc.2.2.1, hc.2.2.2]⟩
  | duration len c =>
    simp only [hitem, Except.ok.injEq] at hstep
    subst hstep
    refine ⟨inv_push hinv a.idx (some _) [] c (fun h => nomatch h), ?_⟩
    simp only [List.map_append, List.map_cons, List.map_nil, List.length_append, List.length_singleton,
      look, hitem, List.append_assoc, resolve_cons_none (congrArg (markerKey fold) hitem)]
    rfl
  | plain c | inset _ c =>
    simp only [hitem, Except.ok.injEq] at hstep
    subst hstep
    exact ⟨hinv, by simp only [look, hitem, resolve_cons_none (congrArg (markerKey fold) hitem)]⟩

/-- the scan with its dictionary equals the look-ahead description -/
theorem run_look {fold : Str → Str} {ts : List Int} {n : Nat} (acts : List Act) (st st' : State)
    (hinv : Inv st) (h : run fold ts st acts = .ok st') :
    finish n st' = st.procs.map (resolve fold n acts) ++ look fold ts n st.procs.length acts := by
  fun_induction run fold ts st acts with
  | case1 st =>
    cases h
    simp [finish_eq (fold := fold) hinv, look]
  | case2 st a rest st1 hstep ih =>
    obtain ⟨hinv1, heq⟩ := step_spec (n := n) rest hinv hstep
    rw [ih hinv1 h, heq]
  | case3 => cases h

theorem nextTime_timed (fold : Str → Str) (k : Str) (acts : List Act) :
    nextTime fold k (timed acts) = (nextMark fold k acts).map (·.time) := by
  induction acts with
  | nil => rfl
  | cons a rest ih =>
    simp only [timed, List.map_cons, nextTime, nextMark] at ih ⊢
    split
    · rfl
    · exact ih

theorem nextMark_mem {fold : Str → Str} {k : Str} {acts : List Act} {a : Act}
    (h : nextMark fold k acts = some a) : a ∈ acts ∧ markerKey fold a.item = some k := by
  fun_induction nextMark fold k acts with
  | case1 => cases h
  | case2 b rest hk =>
    cases h
    exact ⟨List.mem_cons_self .., hk⟩
  | case3 b rest hk ih => exact ⟨List.mem_cons_of_mem _ (ih h).1, (ih h).2⟩

theorem stop_iff {fold : Str → Str} {ts : List Int} (hs : Sorted ts) {acts : List Act}
    (hf : ∀ a ∈ acts, First ts a.idx a.time) {i : Nat} {τ : Int} (hi : ts[i]? = some τ) (k : Str) :
    i < stopOr ts.length (nextMark fold k acts) ↔ ltInf τ (nextTime fold k (timed acts)) = true := by
  rw [nextTime_timed]
  cases hn : nextMark fold k acts with
  | none =>
    simp only [stopOr, Option.map_none, ltInf, iff_true]
    exact (List.getElem?_eq_some_iff.1 hi).1
  | some a =>
    simp only [stopOr, Option.map_some, ltInf, decide_eq_true_eq]
    exact lt_first_iff hs (hf a (nextMark_mem hn).1) hi

/-- a process of the scan and one of the specification stand for the same temporal group: same text, the start
row is the first row of the start time, the rows before the end row are those whose time is before the end time -/
structure Same (ts : List Int) (p : Proc) (q : SProc) : Prop where
  content : p.content = q.content
  start : First ts p.start q.start
  stop : ∃ e, p.stop = some e ∧ ∀ i τ, ts[i]? = some τ → (i < e ↔ ltInf τ q.stop = true)

/-- **The scan refines the specification.** The processes found by look-ahead and the processes of the
specification correspond one to one, in order (`Same`): any two tests that agree on corresponding processes
select the same texts. -/
theorem look_spec {fold : Str → Str} {ts : List Int} (hs : Sorted ts) (f : Proc → Bool) (g : SProc → Bool)
    (hfg : ∀ p q, Same ts p q → f p = g q) (acts : List Act)
    (hf : ∀ a ∈ acts, First ts a.idx a.time) (c : Nat) :
    ((look fold ts ts.length c acts).filter f).map (·.content) =
      ((specProcs fold ts (timed acts)).filter g).map (·.content) := by
  induction acts generalizing c with
  | nil => rfl
  | cons a rest ih =>
    have hfr : ∀ b ∈ rest, First ts b.idx b.time := fun b hb => hf b (List.mem_cons_of_mem _ hb)
    have ha := hf a (List.mem_cons_self ..)
    simp only [timed] at ih
    cases hitem : a.item <;> simp only [look, hitem, timed, List.map_cons, specProcs]
    case onset name cid =>
      exact C10.filter_map_cons_congr
        (hfg _ _ ⟨rfl, ha, _, rfl, fun i τ hi => stop_iff hs hfr hi (fold name)⟩) rfl (ih hfr _)
    case duration len cid =>
      refine C10.filter_map_cons_congr (hfg _ _ ⟨rfl, ha, _, rfl, fun i τ hi => ?_⟩) rfl (ih hfr _)
      rw [lt_bisect_iff hs _ hi, ltInf_first_iff hs _ (List.mem_of_getElem? hi)]
    all_goals exact ih hfr c

/-- the index test of `_extract_context` is the time test of the statement, `P` being the test on the start
time that fits row `i` -/
theorem Same.covers {ts : List Int} {p : Proc} {q : SProc} (h : Same ts p q) {i : Nat} {τ : Int}
    (hi : ts[i]? = some τ) {P : Int → Bool} (hP : p.start < i ↔ P q.start = true) :
    inContext i p = (P q.start && ltInf τ q.stop) := by
  obtain ⟨e, he, hstop⟩ := h.stop
  rw [Bool.eq_iff_iff]
  simp only [inContext, he, Bool.and_eq_true, decide_eq_true_eq, hP, hstop i τ hi]

theorem build_ok {fold : Str → Str} {rows : List Row} {b : Built} (h : build fold rows = .ok b) :
    b.ts = (frame rows).map (·.time) ∧
    b.procs = look fold b.ts b.ts.length 0 (history rows) ∧
    b.rem = (merge none (frame rows)).map (fun r => plainOf r.items) := by
  unfold build at h
  split at h
  · simp only at h
    cases hr : run fold ((frame rows).map (·.time)) ⟨[], []⟩ (history rows) with
    | error e => simp [hr] at h
    | ok st =>
      simp only [hr, Except.ok.injEq] at h
      subst h
      refine ⟨rfl, ?_, rfl⟩
      have := run_look (n := ((frame rows).map (·.time)).length) _ _ _ inv_init hr
      simpa using this
  · simp at h

/-- the processes of the history as the statement describes them (times only) -/
abbrev spec (fold : Str → Str) (rows : List Row) (b : Built) : List SProc :=
  specProcs fold b.ts (timed (history rows))

theorem build_sorted_first {fold : Str → Str} {rows : List Row} {b : Built} (h : build fold rows = .ok b) :
    Sorted b.ts ∧ (∀ a ∈ history rows, First b.ts a.idx a.time) := by
  obtain ⟨hts, _, _⟩ := build_ok h
  exact ⟨hts ▸ frame_sorted rows, hts ▸ acts_first rows⟩

/-- `look_spec` for an accepted file: the context of row `i` lists, in order of start, the processes that start
before its time (or at it, for a later row of a merged time point) and end after it -/
theorem build_spec {fold : Str → Str} {rows : List Row} {b : Built} (h : build fold rows = .ok b)
    {f : Proc → Bool} (g : SProc → Bool) (hfg : ∀ p q, Same b.ts p q → f p = g q) :
    (b.procs.filter f).map (·.content) = ((spec fold rows b).filter g).map (·.content) := by
  rw [(build_ok h).2.1]
  exact look_spec (build_sorted_first h).1 f g hfg _ (build_sorted_first h).2 0

/-- **C20 (core).** For every accepted history, at the first row of each time point the reported context is
exactly the list of processes that started strictly earlier and have not ended (`specContext`), in the
order of the history. -/
theorem context_spec (fold : Str → Str) (rows : List Row) (b : Built) (h : build fold rows = .ok b)
    (i : Nat) (τ : Int) (hi : First b.ts i τ) :
    contextAt b.procs i = specContext (spec fold rows b) τ := by
  exact build_spec h _ fun p q hpq => hpq.covers hi.1 (P := fun σ => decide (σ < τ))
    (by simpa using lt_first_iff (build_sorted_first h).1 hi hpq.start.1)

theorem contexts_getElem (b : Built) (i : Nat) (hi : i < b.ts.length) :
    (contexts b)[i]? = some (contextAt b.procs i) := by
  simp [contexts, hi]

/-- the two readings of the statement for rows that share an onset -/
def StrictReading (fold : Str → Str) (rows : List Row) (b : Built) : Prop :=
  ∀ i τ, b.ts[i]? = some τ → contextAt b.procs i = specContext (spec fold rows b) τ

def InclusiveReading (fold : Str → Str) (rows : List Row) (b : Built) : Prop :=
  ∀ i τ, b.ts[i]? = some τ →
    (First b.ts i τ → contextAt b.procs i = specContext (spec fold rows b) τ) ∧
    (¬ First b.ts i τ → contextAt b.procs i = specContextIncl (spec fold rows b) τ)

/-- **merged rows.** The model satisfies the inclusive reading: a later row of a merged time point shows the
processes started earlier *or at* this time point that have not ended. -/
theorem merged_rows (fold : Str → Str) (rows : List Row) (b : Built) (h : build fold rows = .ok b) :
    InclusiveReading fold rows b := by
  intro i τ hi
  refine ⟨fun hF => context_spec fold rows b h i τ hF, fun hn => ?_⟩
  exact build_spec h _ fun p q hpq => hpq.covers hi (P := fun σ => decide (σ ≤ τ))
    (by simpa using first_lt_iff_later (build_sorted_first h).1 hpq.start hi hn)

/-- rows 0 and 1 share onset 1.0 s; `(Def/A, Onset)` sits on row 0 -/
def probe : List Row := [⟨8, [.onset ['A'] 1], []⟩, ⟨8, [.plain 2], []⟩]

/-- … and the strict reading fails: row 1 shows process 1, which started at this very time point. -/
theorem merged_rows_strict_counterexample :
    ∃ b, build id probe = .ok b ∧ contextAt b.procs 1 = [1] ∧ specContext (spec id probe b) 8 = [] ∧
      ¬ StrictReading id probe b := by
  have h : build id probe = .ok ⟨[8, 8], [⟨0, 0, some 2, ['A'], 1⟩], [[2], []]⟩ := by rfl
  refine ⟨_, h, by decide, by decide, fun hs => ?_⟩
  have := hs 1 8 (by decide)
  revert this
  decide

theorem look_suffix (fold : Str → Str) (ts : List Int) (n : Nat) (pre l : List Act) (c : Nat) :
    ∃ c', look fold ts n c' l <:+ look fold ts n c (pre ++ l) := by
  induction pre generalizing c with
  | nil => exact ⟨c, List.suffix_refl _⟩
  | cons b pre ih =>
    cases hb : b.item <;> simp only [List.cons_append, look, hb]
    case onset | duration =>
      obtain ⟨c', h⟩ := ih (c + 1)
      exact ⟨c', h.trans (List.suffix_cons _ _)⟩
    all_goals exact ih c

theorem mem_look_onset (fold : Str → Str) (ts : List Int) (n : Nat) (pre : List Act) {rest : List Act}
    {a : Act} {name : Str} {c : Nat} (hitem : a.item = .onset name c) (c0 : Nat) :
    ∃ p ∈ look fold ts n c0 (pre ++ a :: rest), p.start = a.idx ∧ p.content = c ∧
      p.stop = some (stopOr n (nextMark fold (fold name) rest)) := by
  obtain ⟨c', h⟩ := look_suffix fold ts n pre (a :: rest) c0
  simp only [look, hitem] at h
  exact ⟨_, List.IsSuffix.mem (List.mem_cons_self ..) h, rfl, rfl, rfl⟩

theorem mem_look_duration (fold : Str → Str) (ts : List Int) (n : Nat) {acts : List Act} {a : Act}
    {len : Int} {c : Nat} (ha : a ∈ acts) (hitem : a.item = .duration len c) (c0 : Nat) :
    ∃ p ∈ look fold ts n c0 acts, p.start = a.idx ∧ p.content = c ∧
      p.stop = some (bisectLeft ts (a.time + len)) := by
  obtain ⟨pre, rest, rfl⟩ := List.append_of_mem ha
  obtain ⟨c', h⟩ := look_suffix fold ts n pre (a :: rest) c0
  simp only [look, hitem] at h
  exact ⟨_, List.IsSuffix.mem (List.mem_cons_self ..) h, rfl, rfl, rfl⟩

/-- **boundaries (Duration).** The process of a Duration group covers exactly the later rows whose time is
before `start + duration`; in particular a row whose onset *equals* the end time does not show it. -/
theorem boundaries_duration_exact (fold : Str → Str) (rows : List Row) (b : Built)
    (h : build fold rows = .ok b) (a : Act) (len : Int) (c : Nat) (ha : a ∈ history rows)
    (hitem : a.item = .duration len c) :
    ∃ p ∈ b.procs, p.start = a.idx ∧ p.content = c ∧
      (∀ i τ, b.ts[i]? = some τ → (inContext i p = true ↔ a.idx < i ∧ τ < a.time + len)) ∧
      (∀ i, b.ts[i]? = some (a.time + len) → inContext i p = false) := by
  obtain ⟨hs, _⟩ := build_sorted_first h
  obtain ⟨p, hp, h1, h2, h3⟩ := mem_look_duration fold b.ts b.ts.length ha hitem 0
  rw [← (build_ok h).2.1] at hp
  have key : ∀ i τ, b.ts[i]? = some τ → (inContext i p = true ↔ a.idx < i ∧ τ < a.time + len) := by
    intro i τ hi
    have := lt_bisect_iff hs (a.time + len) hi
    simp only [inContext, h3, h1, Bool.and_eq_true, decide_eq_true_eq, this]
  refine ⟨p, hp, h1, h2, key, fun i hi => ?_⟩
  exact Bool.eq_false_iff.2 fun hc => Int.lt_irrefl _ ((key i _ hi).1 hc).2

/-- **boundaries (past the end).** A Duration reaching beyond the last onset ends at `len(onsets)`:
every later row shows it. -/
theorem boundaries_past_end (fold : Str → Str) (rows : List Row) (b : Built)
    (h : build fold rows = .ok b) (a : Act) (len : Int) (c : Nat) (ha : a ∈ history rows)
    (hitem : a.item = .duration len c) (hend : ∀ x ∈ b.ts, x < a.time + len) :
    ∃ p ∈ b.procs, p.start = a.idx ∧ p.content = c ∧ p.stop = some b.ts.length ∧
      (∀ i, a.idx < i → i < b.ts.length → inContext i p = true) := by
  obtain ⟨p, hp, h1, h2, h3⟩ := mem_look_duration fold b.ts b.ts.length ha hitem 0
  rw [← (build_ok h).2.1] at hp
  rw [bisect_all hend] at h3
  refine ⟨p, hp, h1, h2, h3, fun i hi hn => ?_⟩
  simp [inContext, h3, h1, hi, hn]

theorem nextMark_skip {fold : Str → Str} {k : Str} (mid l : List Act)
    (h : ∀ x ∈ mid, markerKey fold x.item ≠ some k) : nextMark fold k (mid ++ l) = nextMark fold k l := by
  induction mid with
  | nil => rfl
  | cons x xs ih =>
    rw [List.cons_append, nextMark, if_neg (h x (List.mem_cons_self ..))]
    exact ih fun y hy => h y (List.mem_cons_of_mem _ hy)

/-- **boundaries (restart / Offset).** An Onset process ends at the row of the next Onset or Offset of the same
folded name (a restart closes the old process at the restart row), with no later marker at `len(onsets)`. -/
theorem boundaries_restart (fold : Str → Str) (rows : List Row) (b : Built)
    (h : build fold rows = .ok b) (pre rest : List Act) (a : Act) (name : Str) (c : Nat)
    (hsplit : history rows = pre ++ a :: rest) (hitem : a.item = .onset name c) :
    ∃ p ∈ b.procs, p.start = a.idx ∧ p.content = c ∧
      (∀ mid a' post, rest = mid ++ a' :: post → markerKey fold a'.item = some (fold name) →
          (∀ x ∈ mid, markerKey fold x.item ≠ some (fold name)) →
          p.stop = some a'.idx ∧ ∀ i, a'.idx ≤ i → inContext i p = false) ∧
      ((∀ x ∈ rest, markerKey fold x.item ≠ some (fold name)) → p.stop = some b.ts.length) := by
  obtain ⟨p, hp, h1, h2, h3⟩ :=
    mem_look_onset fold b.ts b.ts.length pre (rest := rest) hitem 0
  rw [← hsplit, ← (build_ok h).2.1] at hp
  refine ⟨p, hp, h1, h2, ?_, ?_⟩
  · intro mid a' post hr hk hmid
    rw [hr, nextMark_skip mid _ hmid, nextMark, if_pos hk] at h3
    refine ⟨h3, fun i hi => ?_⟩
    simp only [inContext, h3, stopOr]
    simp; omega
  · intro hn
    rw [← List.append_nil rest, nextMark_skip rest [] hn] at h3
    exact h3

theorem look_sublist (fold : Str → Str) (ts : List Int) (n c : Nat) (acts : List Act) :
    ((look fold ts n c acts).map (·.start)).Sublist (acts.map (·.idx)) := by
  induction acts generalizing c with
  | nil => exact List.Sublist.slnil
  | cons a rest ih =>
    cases ha : a.item <;> simp only [List.map_cons, look, ha]
    case onset | duration => exact List.Sublist.cons_cons _ (ih _)
    all_goals exact List.Sublist.cons _ (ih _)

/-- **base.** Every process is listed in `base` at its start row, which is the first row of a time point;
`base` at the first row of a time point lists exactly the processes that start at that time, and is empty at the
later rows of a merged time point. -/
theorem base_listed (fold : Str → Str) (rows : List Row) (b : Built) (h : build fold rows = .ok b) :
    (∀ p ∈ b.procs, p.content ∈ baseAt b.procs p.start ∧ ∃ t, First b.ts p.start t) ∧
    (∀ i τ, First b.ts i τ → baseAt b.procs i = specStarts (spec fold rows b) τ) ∧
    (∀ i τ, b.ts[i]? = some τ → ¬ First b.ts i τ → baseAt b.procs i = []) := by
  refine ⟨fun p hpm => ⟨?_, ?_⟩, fun i τ hi => ?_, fun i τ hi hn => ?_⟩
  · exact List.mem_map.2 ⟨p, List.mem_filter.2 ⟨hpm, beq_self_eq_true _⟩, rfl⟩
  · rw [(build_ok h).2.1] at hpm
    obtain ⟨a, ha, e⟩ := List.mem_map.1 ((look_sublist fold _ _ 0 _).subset (List.mem_map_of_mem hpm))
    exact ⟨a.time, e ▸ (build_sorted_first h).2 a ha⟩
  · refine build_spec h _ fun p q hpq => ?_
    rw [Bool.eq_iff_iff, beq_iff_eq, beq_iff_eq]
    exact first_eq_iff hpq.start hi
  · rw [baseAt, build_spec h (fun _ => false) fun p q hpq => ?_]
    · rw [List.filter_eq_nil_iff.2 fun _ _ => Bool.false_ne_true, List.map_nil]
    · refine beq_eq_false_iff_ne.2 fun e => hn ?_
      have hst := hpq.start
      rw [e] at hst
      rwa [Option.some.inj (hi.symm.trans hst.1)]

theorem plainOf_append (a b : List Item) : plainOf (a ++ b) = plainOf a ++ plainOf b := by
  induction a with
  | nil => rfl
  | cons x xs ih => cases x <;> simp [plainOf, ih]

theorem plainOf_flatten (l : List FRow) :
    (l.map fun r => plainOf r.items).flatten = plainOf (l.flatMap (·.items)) := by
  induction l with
  | nil => rfl
  | cons r rs ih => rw [List.map_cons, List.flatten_cons, ih, List.flatMap_cons, plainOf_append]

/-- the (time, item) occurrences of a frame, in order -/
def occ (l : List FRow) : List (Int × Item) := l.flatMap fun r => r.items.map fun it => (r.time, it)

theorem occ_cons (r : FRow) (rs : List FRow) :
    occ (r :: rs) = r.items.map (fun it => (r.time, it)) ++ occ rs :=
  List.flatMap_cons

theorem occ_items (l : List FRow) : (occ l).map Prod.snd = l.flatMap (·.items) := by
  simp only [occ, List.map_flatMap, List.map_map, Function.comp_def, List.map_id']

theorem group_drop (t : Int) (rs : List FRow) :
    (groupItems t rs).map (fun it => (t, it)) ++ occ (rs.dropWhile fun r => r.time == t) = occ rs := by
  induction rs with
  | nil => rfl
  | cons r rs ih =>
    rw [groupItems, List.dropWhile_cons]
    by_cases e : r.time = t
    · rw [if_pos e, if_pos (beq_iff_eq.2 e), List.map_append, List.append_assoc, ih, occ_cons, e]
    · rw [if_neg e, if_neg (mt beq_iff_eq.1 e)]
      rfl

/-- merging keeps every item at its time, in order; those of a time point stand on its first row (after a row of
time `t` the further rows of time `t` have given theirs away) -/
theorem occ_merge (prev : Option Int) (l : List FRow) :
    occ (merge prev l) =
      occ (match prev with
        | none => l
        | some t => l.dropWhile fun r => r.time == t) := by
  induction l generalizing prev with
  | nil => cases prev <;> rfl
  | cons r rs ih =>
    rw [merge, occ_cons, ih (some r.time)]
    dsimp only
    by_cases e : prev = some r.time
    · subst e
      simp only [if_true, List.map_nil, List.nil_append, List.dropWhile_cons, beq_self_eq_true]
    · rw [if_neg e, List.map_append, List.append_assoc, group_drop, ← occ_cons]
      cases prev with
      | none => rfl
      | some t =>
        have : (r.time == t) = false := beq_eq_false_iff_ne.2 fun h => e (congrArg some h.symm)
        simp only [List.dropWhile_cons, this, Bool.false_eq_true, if_false]

/-- **remainder.** What is left of the rows (`hed_strings`) has one entry per row of the frame and consists,
in order, of exactly the plain (non-temporal) items of the frame: no temporal group is kept, no plain item lost. -/
theorem remainder_plain (fold : Str → Str) (rows : List Row) (b : Built) (h : build fold rows = .ok b) :
    b.rem.length = b.ts.length ∧ b.rem.flatten = plainOf ((frame rows).flatMap (·.items)) := by
  obtain ⟨hts, _, hrem⟩ := build_ok h
  refine ⟨?_, ?_⟩
  · rw [hrem, hts]
    have : ∀ prev (l : List FRow), (merge prev l).length = l.length := by
      intro prev l
      induction l generalizing prev with
      | nil => rfl
      | cons r rs ih => simp [merge, ih]
    simp [this]
  · rw [hrem, plainOf_flatten, ← occ_items, occ_merge none, occ_items]

theorem nonDecreasing_pairwise (ts : List Int) : nonDecreasing ts = true ↔ ts.Pairwise (· ≤ ·) := by
  induction ts with
  | nil => simp [nonDecreasing]
  | cons a rest ih =>
    unfold nonDecreasing
    rw [Bool.and_eq_true, ih, List.pairwise_cons]
    refine and_congr_left fun hp => ?_
    cases rest with
    | nil => simp
    | cons b rest' =>
      rw [decide_eq_true_eq]
      exact ⟨fun hab x hx => (List.mem_cons.1 hx).elim (· ▸ hab) fun hx =>
        Int.le_trans hab ((List.pairwise_cons.1 hp).1 x hx), fun h => h b (List.mem_cons_self ..)⟩

/-- **rejection.** A file with a later onset smaller than an earlier one is rejected. -/
theorem reject_unordered (fold : Str → Str) (rows : List Row) (i j : Nat) (x y : Int) (hij : i < j)
    (hx : (rows.map (·.time))[i]? = some x) (hy : (rows.map (·.time))[j]? = some y) (hlt : y < x) :
    build fold rows = .error .unordered := by
  unfold build
  split
  · rename_i hnd
    have := sorted_idx ((nonDecreasing_pairwise _).1 hnd) (Nat.le_of_lt hij) hx hy
    omega
  · rfl

theorem actsFrom_idx_ge {k : Nat} {rows : List FRow} {a : Act} (h : a ∈ actsFrom k rows) : k ≤ a.idx := by
  obtain ⟨j, r, _, h⟩ := mem_actsFrom.1 h
  exact (mem_rowActs.1 h).1 ▸ Nat.le_add_right k j

theorem actsFrom_idx_sorted (k : Nat) (rows : List FRow) :
    (actsFrom k rows).Pairwise (fun a b => a.idx ≤ b.idx) := by
  induction rows generalizing k with
  | nil => simp [actsFrom]
  | cons r rs ih =>
    simp only [actsFrom]
    refine List.pairwise_append.2 ⟨?_, ih (k + 1), ?_⟩
    · have : ∀ a ∈ rowActs k r, a.idx = k := fun a ha => (mem_rowActs.1 ha).1
      exact List.pairwise_of_forall_mem_list (fun a ha b hb => by rw [this a ha, this b hb]; exact Nat.le_refl _)
    · intro a ha b hb
      have := (mem_rowActs.1 ha).1
      have := actsFrom_idx_ge hb
      omega

theorem specProcs_sublist (fold : Str → Str) (ts : List Int) (H : List (Int × Item)) :
    ((specProcs fold ts H).map (·.start)).Sublist (H.map (·.1)) := by
  induction H with
  | nil => exact List.Sublist.slnil
  | cons x xs ih =>
    obtain ⟨t, it⟩ := x
    cases it <;> simp only [List.map_cons, specProcs]
    case onset | duration => exact List.Sublist.cons_cons _ ih
    all_goals exact List.Sublist.cons _ ih

theorem specProcs_start_mem {fold : Str → Str} {ts : List Int} {H : List (Int × Item)} {q : SProc}
    (h : q ∈ specProcs fold ts H) : ∃ x ∈ H, q.start = x.1 :=
  let ⟨x, hx, e⟩ := List.mem_map.1 ((specProcs_sublist fold ts H).subset (List.mem_map_of_mem h))
  ⟨x, hx, e.symm⟩

theorem history_sorted (rows : List Row) : (timed (history rows)).Pairwise (fun a b => a.1 ≤ b.1) := by
  refine List.pairwise_map.2 (List.Pairwise.imp_of_mem ?_ (actsFrom_idx_sorted 0 _))
  intro a c ha hc hle
  exact sorted_idx (frame_sorted rows) hle (acts_first rows a ha).1 (acts_first rows c hc).1

/-- **order.** The processes of the specification — hence every context and base entry, which are filtered
sublists of it — come in non-decreasing order of start time. -/
theorem context_start_order (fold : Str → Str) (rows : List Row) (b : Built) (h : build fold rows = .ok b) :
    (spec fold rows b).Pairwise (fun p q => p.start ≤ q.start) :=
  List.pairwise_map.1 ((List.pairwise_map.2 (history_sorted rows)).sublist (specProcs_sublist fold b.ts _))

/-- A at 0 s with a 1 s Duration group; a plain tag at 1 s with a delayed Offset of A arriving at 2 s; an
empty row at 2 s (so the time point 2 s has two rows). -/
def sample : List Row :=
  [⟨0, [.onset ['A'] 1, .duration 8 2], []⟩, ⟨8, [.plain 3], [(8, .offset ['A'])]⟩, ⟨16, [], []⟩]

example : ∃ b, build id sample = .ok b ∧ b.ts = [0, 8, 16, 16] ∧
    First b.ts 1 8 ∧ contextAt b.procs 1 = [1] ∧        -- the Duration process ended exactly at 1 s
    First b.ts 2 16 ∧ contextAt b.procs 2 = [] ∧ ¬ First b.ts 3 16 ∧
    contexts b = [[], [1], [], []] ∧ base b = [[1, 2], [], [], []] ∧ b.rem = [[], [3], [], []] := by
  refine ⟨⟨[0, 8, 16, 16], [⟨0, 0, some 2, ['A'], 1⟩, ⟨1, 0, some 1, [], 2⟩], [[], [3], [], []]⟩,
    by rfl, rfl, ⟨by rfl, ?_⟩, rfl, ⟨by rfl, ?_⟩, rfl, ?_, rfl, rfl, rfl⟩
  · intro j x hj hx
    have : j = 0 := by omega
    subst this; simp at hx; omega
  · intro j x hj hx
    have : j = 0 ∨ j = 1 := by omega
    rcases this with rfl | rfl <;> simp at hx <;> omega
  · intro hF
    have := hF.2 2 16 (by omega) (by rfl)
    omega

/-- hypotheses of `boundaries_restart` (restart of an open process) and `reject_unordered` are satisfiable -/
example : ∃ b, build id [⟨0, [.onset ['A'] 1], []⟩, ⟨8, [.onset ['A'] 2], []⟩] = .ok b ∧
    history [⟨0, [.onset ['A'] 1], []⟩, ⟨8, [.onset ['A'] 2], []⟩] =
      [] ++ ⟨0, 0, .onset ['A'] 1⟩ :: ([] ++ ⟨1, 8, .onset ['A'] 2⟩ :: []) ∧
    b.procs.map (fun p => (p.start, p.stop, p.content)) = [(0, some 1, 1), (1, some 2, 2)] :=
  ⟨⟨[0, 8], [⟨0, 0, some 1, ['A'], 1⟩, ⟨1, 1, some 2, ['A'], 2⟩], [[], []]⟩, by rfl, by rfl, by rfl⟩

example : build id [⟨8, [], []⟩, ⟨0, [], []⟩] = .error .unordered :=
  reject_unordered id _ 0 1 8 0 (by omega) (by rfl) (by rfl) (by omega)

/-! ## text layer -/

/-- **process content.** `TemporalEvent._split_group`: with an inner group the content is the group itself
without its Onset and Duration tags — every other child (Def, Delay, inner groups, other tags) is kept, in
order; without an inner group it is the short tag of the last Def child (or `None`). -/
theorem process_content_spec (ks : List TNode) :
    (ks.any isGroup = true →
      splitGroup ks = .group (ks.filter notAnchor) ∧
      (∀ k ∈ ks, isGroup k = true → k ∈ ks.filter notAnchor) ∧
      (∀ t, TNode.tag t ∈ ks → (TNode.tag t ∈ ks.filter notAnchor ↔ (isB kOnset t || isB kDuration t) = false))) ∧
    (ks.any isGroup = false →
      splitGroup ks = match lastDef ks with
        | some t => .tag (canonTag t)
        | none => .tag kNone) := by
  refine ⟨fun h => ⟨by simp [splitGroup, h], ?_, ?_⟩, fun h => by simp only [splitGroup, h]; rfl⟩
  · intro k hk hg
    refine List.mem_filter.2 ⟨hk, ?_⟩
    cases k with
    | tag t => simp [isGroup] at hg
    | group g => rfl
  · intro t ht
    simp [List.mem_filter, ht, notAnchor]

/-- **Inset.** A group with an Inset tag (and no Onset/Offset/Duration tag) is not a temporal group for the
manager: it is classified as remainder … -/
theorem inset_is_remainder (vals : Str → Option Int) (id : Nat) (ks : List TNode)
    (h1 : (directTags ks).find? (fun t => isB kOnset t || isB kOffset t) = none)
    (h2 : (directTags ks).filter (isB kDuration) = [])
    (h3 : (directTags ks).any (isB kInset) = true) :
    ∃ nm, classify vals id (.group ks) = .ok (.inset nm id) := by
  simp [classify, h1, h2, h3]

/-- … and is never met by the scan: it opens, closes and delays nothing and stays in the row's remainder
(`remainder_plain`). -/
theorem inset_not_scanned (rows : List Row) :
    ∀ a ∈ history rows, isMarker a.item = true ∨ isDuration a.item = true := fun _ ha =>
  let ⟨_, _, _, h⟩ := mem_actsFrom.1 ha
  (mem_rowActs.1 h).2.2.2

/-- **Onset with Duration in one group.** The first search (Onset/Offset anchors) takes the group: an Onset
process named by its first Def; the Duration value is not used. (The validator rejects such a group.) -/
theorem onset_duration_is_onset (vals : Str → Option Int) (id : Nat) (ks : List TNode) (t ext : Str)
    (h1 : (directTags ks).find? (fun t => isB kOnset t || isB kOffset t) = some t)
    (h2 : isB kOnset t = true) (h3 : (defExts ks).head? = some ext) :
    classify vals id (.group ks) = .ok (.onset ext id) := by
  simp [classify, h1, h2, h3]

theorem filtTags_append (p : Str → Bool) (a b : List TNode) :
    filtTags p (a ++ b) = filtTags p a ++ filtTags p b := by
  induction a with
  | nil => simp [filtTags]
  | cons n r ih =>
    cases n with
    | tag t => simp only [List.cons_append, filtTags]; split <;> simp [ih]
    | group ks => simp only [List.cons_append, filtTags]; split <;> simp [ih]

theorem filtGroups_append (p : Str → Bool) (a b : List TNode) :
    filtGroups p (a ++ b) = filtGroups p a ++ filtGroups p b := by
  induction a with
  | nil => simp [filtGroups]
  | cons n r ih =>
    cases n with
    | tag t => simp [filtGroups, ih]
    | group ks =>
      simp only [List.cons_append, filtGroups]
      split
      · exact ih
      · split <;> simp [ih]

theorem filterHed_append (T N : List Str) (rg : Bool) (a b : List TNode) :
    filterHed T N rg (a ++ b) = filterHed T N rg a ++ filterHed T N rg b := by
  cases rg <;>
    simp [filterHed, filtTop, filtTags_append, filtGroups_append, List.filter_append]

theorem filterHed_flatMap {α : Type} (T N : List Str) (rg : Bool) (xs : List α) (g : α → List TNode) :
    filterHed T N rg (xs.flatMap g) = xs.flatMap (fun x => filterHed T N rg (g x)) := by
  induction xs with
  | nil => cases rg <;> simp [filterHed, filtTop, filtTags, filtGroups]
  | cons x xs ih => simp [List.flatMap_cons, filterHed_append, ih]

/-- **unfolding commutes with context construction.** Filtering the context of a row (`_get_base_contexts`:
types and their definitions removed with their groups) gives the context built from the individually filtered
process texts; the same for `base`. -/
theorem unfold_commutes (T N : List Str) (tbl : List TNode) (b : Built) (i : Nat) :
    filterHed T N true (ctxNodes tbl b i) =
      (b.procs.filter (inContext i)).flatMap (fun p => filterHed T N true [contentOf tbl p.content]) ∧
    filterHed T N true (baseNodes tbl b i) =
      (b.procs.filter (fun p => p.start == i)).flatMap (fun p => filterHed T N true [contentOf tbl p.content]) := by
  have h : ∀ l : List Proc, (l.map (·.content)).map (contentOf tbl) = l.flatMap (fun p => [contentOf tbl p.content]) :=
    fun l => List.map_map.trans List.map_eq_flatMap
  constructor
  · simp only [ctxNodes, contextAt, h, filterHed_flatMap]
  · simp only [baseNodes, baseAt, h, filterHed_flatMap]

/-! ## the manager's frame is the time-point enumeration of the file (C10's `timePoints`) -/

/-- the temporal marker C10's machine sees in an item -/
def markerOf : Item → Option Temporal.Marker
  | .onset n _ => some ⟨.onset, n⟩
  | .offset n => some ⟨.offset, n⟩
  | .inset n _ => some ⟨.inset, n⟩
  | .duration _ _ => none
  | .plain _ => none

def markersOf (its : List Item) : List Temporal.Marker := its.filterMap markerOf

/-- the file as C10's model reads it -/
def toT (r : Row) : Temporal.Row :=
  ⟨r.time, markersOf r.items, r.delayed.map fun di => (di.1, markersOf [di.2])⟩

def projT (r : Temporal.TRow) : Int × List Temporal.Marker := (r.time, r.markers)
def projE (r : FRow) : Int × List Temporal.Marker := (r.time, markersOf r.items)

theorem markersOf_append (a b : List Item) : markersOf (a ++ b) = markersOf a ++ markersOf b := by
  simp [markersOf, List.filterMap_append]

theorem own_proj (rows : List Row) (i : Nat) :
    (Temporal.splitRows.own i (rows.map toT)).map projT = (ownRows rows).map projE := by
  induction rows generalizing i with
  | nil => rfl
  | cons r rs ih =>
    simp only [List.map_cons, Temporal.splitRows.own, ownRows] at ih ⊢
    rw [ih]
    rfl

theorem del_proj (rows : List Row) (i : Nat) :
    (Temporal.splitRows.del i (rows.map toT)).map projT = (delayRows rows).map projE := by
  induction rows generalizing i with
  | nil => rfl
  | cons r rs ih =>
    simp only [List.map_cons, Temporal.splitRows.del, delayRows, List.map_append, ih]
    congr 1
    simp [toT, projT, projE, Function.comp_def]

theorem split_proj (rows : List Row) :
    (Temporal.splitRows (rows.map toT)).map projT = (splitRows rows).map projE := by
  simp only [Temporal.splitRows, splitRows, List.map_append, own_proj, del_proj]

theorem sort_proj {l : List Temporal.TRow} {l' : List FRow} (h : l.map projT = l'.map projE) :
    (Temporal.sortRows l).map projT = (sortRows l').map projE := by
  rw [C10.sortRows_eq, sortRows_eq, SortBy.sortBy_map (·.time) projT Prod.fst (fun _ => rfl),
    SortBy.sortBy_map (·.time) projE Prod.fst (fun _ => rfl), h]

/-- `filter_series_by_onset` seen from the right, as C10 models it: runs of equal times joined -/
def points : List FRow → List (Int × List Item)
  | [] => []
  | x :: xs =>
    match points xs with
    | [] => [(x.time, x.items)]
    | (t, its) :: ys => if x.time = t then (x.time, x.items ++ its) :: ys else (x.time, x.items) :: (t, its) :: ys

theorem merge_proj {l : List Temporal.TRow} {l' : List FRow} (h : l.map projT = l'.map projE) :
    (Temporal.mergeRows l).map projT = (points l').map (fun p => (p.1, markersOf p.2)) := by
  induction l generalizing l' with
  | nil =>
    cases l' with
    | nil => rfl
    | cons _ _ => simp at h
  | cons x xs ih =>
    cases l' with
    | nil => simp at h
    | cons x' xs' =>
      simp only [List.map_cons, List.cons.injEq] at h
      have hxt : x.time = x'.time := congrArg Prod.fst h.1
      have hxm : x.markers = markersOf x'.items := congrArg Prod.snd h.1
      have := ih h.2
      simp only [Temporal.mergeRows, points]
      cases hm : Temporal.mergeRows xs with
      | nil =>
        cases hp : points xs' with
        | nil => simp [projT, hxt, hxm]
        | cons q qs => simp [hm, hp] at this
      | cons y ys =>
        cases hp : points xs' with
        | nil => simp [hm, hp] at this
        | cons q qs =>
          obtain ⟨t, its⟩ := q
          simp only [hm, hp, List.map_cons, List.cons.injEq, projT, Prod.mk.injEq] at this
          obtain ⟨⟨ht, hmk⟩, hrest⟩ := this
          simp only [hxt, ht]
          split <;> simp [projT, hxt, hxm, ht, hmk, hrest, markersOf_append]

theorem points_cons (r : FRow) (rs : List FRow) :
    points (r :: rs) =
      (r.time, r.items ++ groupItems r.time rs) :: points (rs.dropWhile (fun s => s.time == r.time)) := by
  induction rs generalizing r with
  | nil => simp [points, groupItems]
  | cons s ss ih =>
    rw [points, ih s]
    by_cases e : r.time = s.time
    · simp [e, groupItems]
    · have e' : ¬ s.time = r.time := fun h => e h.symm
      simp [e, groupItems, e', ih s]

/-- the rows of the merged frame that stand for a time point: those whose onset differs from the previous row's -/
def firstRows : Option Int → List FRow → List FRow
  | _, [] => []
  | prev, x :: xs => if prev = some x.time then firstRows (some x.time) xs else x :: firstRows (some x.time) xs

theorem firstRows_merge_some (t : Int) (l : List FRow) :
    (firstRows (some t) (merge (some t) l)).map (fun r => (r.time, r.items)) =
      points (l.dropWhile (fun s => s.time == t)) := by
  induction l generalizing t with
  | nil => rfl
  | cons r rs ih =>
    simp only [merge, firstRows]
    by_cases e : r.time = t
    · simp [e, ih]
    · have e' : ¬ (some t = some r.time) := fun h => e (by injection h with h; exact h.symm)
      simp only [e', if_false, List.map_cons, ih r.time]
      simp [e, points_cons]

theorem firstRows_merge_none (l : List FRow) :
    (firstRows none (merge none l)).map (fun r => (r.time, r.items)) = points l := by
  cases l with
  | nil => rfl
  | cons r rs =>
    simp only [merge, firstRows, reduceCtorEq, if_false, List.map_cons, firstRows_merge_some, points_cons]

/-- **time points.** The rows of the manager's merged frame that start a time point are, in order, exactly the
time points C10's model enumerates for the same file (same times, same temporal markers) … -/
theorem frame_is_timepoints (rows : List Row) :
    (Temporal.timePoints (rows.map toT)).map (fun tp => (tp.time, tp.markers)) =
      (firstRows none (merge none (frame rows))).map (fun r => (r.time, markersOf r.items)) := by
  have h := merge_proj (sort_proj (split_proj rows))
  have h2 := firstRows_merge_none (frame rows)
  unfold Temporal.timePoints
  have h3 : ∀ l : List Temporal.TRow, l.map (fun tp => (tp.time, tp.markers)) = l.map projT := fun _ => rfl
  rw [h3, h]
  show List.map _ (points (frame rows)) = _
  rw [← h2, List.map_map]
  rfl

/-- … which by C10's `timePoints_spec` are the strictly increasing distinct effective times (own onsets and
Delay-shifted times) of the file, each with everything that happens at that time. -/
theorem frame_times_are_effective_times (rows : List Row) :
    (firstRows none (merge none (frame rows))).map (·.time) = C10.effTimes (rows.map toT) ∧
    (C10.effTimes (rows.map toT)).Pairwise (· < ·) ∧
    ∀ τ, τ ∈ C10.effTimes (rows.map toT) ↔ ∃ r ∈ Temporal.splitRows (rows.map toT), r.time = τ := by
  refine ⟨?_, (C10.timePoints_spec _).2.1, (C10.timePoints_spec _).2.2⟩
  have := congrArg (List.map Prod.fst) (frame_is_timepoints rows)
  simp only [List.map_map, Function.comp_def] at this
  rw [C10.effTimes]
  exact this.symm

/-! ## files that temporal validation accepts are never rejected by the constructor -/

open HedVerif.Temporal (Marker MKind) in
/-- C10's transition (`Temporal.handle`) run over a flat sequence of markers without error -/
def seqOK (fold : Str → Str) : List Str → List Temporal.Marker → Prop
  | _, [] => True
  | op, m :: ms => (Temporal.handle op m.kind (fold m.name)).2 = none ∧
      seqOK fold (Temporal.handle op m.kind (fold m.name)).1 ms

def seqOp (fold : Str → Str) : List Str → List Temporal.Marker → List Str
  | op, [] => op
  | op, m :: ms => seqOp fold (Temporal.handle op m.kind (fold m.name)).1 ms

theorem seqOK_append (fold : Str → Str) (op : List Str) (a b : List Temporal.Marker) :
    seqOK fold op (a ++ b) ↔ seqOK fold op a ∧ seqOK fold (seqOp fold op a) b := by
  induction a generalizing op with
  | nil => simp [seqOK, seqOp]
  | cons m ms ih => simp only [List.cons_append, seqOK, seqOp, ih, and_assoc]

theorem seqOp_append (fold : Str → Str) (op : List Str) (a b : List Temporal.Marker) :
    seqOp fold op (a ++ b) = seqOp fold (seqOp fold op a) b := by
  induction a generalizing op with
  | nil => rfl
  | cons m ms ih => simp only [List.cons_append, seqOp, ih]

/-- a time point without error is a flat run: no name occurs twice in it -/
theorem go_ok {fold : Str → Str} {ms : List Temporal.Marker} {st : List Str × List Str} {i : Nat}
    (h : (Temporal.stepPoint.go fold st i ms).2 = []) :
    seqOK fold st.1 ms ∧ (Temporal.stepPoint.go fold st i ms).1 = seqOp fold st.1 ms := by
  induction ms generalizing st i with
  | nil => exact ⟨trivial, rfl⟩
  | cons m rest ih =>
    simp only [Temporal.stepPoint.go, Temporal.stepMarker] at h ⊢
    by_cases hc : st.2.contains (fold m.name) = true
    · simp only [hc, if_true] at h
      cases h
    · simp only [hc] at h ⊢
      cases he : (Temporal.handle st.1 m.kind (fold m.name)).2 with
      | some x => simp [he] at h
      | none =>
        simp only [he] at h ⊢
        have := ih h
        exact ⟨⟨he, this.1⟩, this.2⟩

theorem open_fold {fold : Str → Str} {a : List (List Temporal.Marker)} {op : List Str} {t : Nat}
    (h : Temporal.run fold op t a = []) :
    a.foldl (fun op ms => (Temporal.stepPoint fold op ms).1) op = seqOp fold op a.flatten ∧
    seqOK fold op a.flatten := by
  induction a generalizing op t with
  | nil => exact ⟨rfl, trivial⟩
  | cons ms rest ih =>
    simp only [Temporal.run, List.append_eq_nil_iff, List.map_eq_nil_iff] at h
    obtain ⟨hok, hsp⟩ := go_ok h.1
    have := ih h.2
    rw [show (Temporal.stepPoint fold op ms).1 = seqOp fold op ms from hsp] at this
    simp only [List.foldl_cons, List.flatten_cons, seqOp_append, seqOK_append]
    exact ⟨hsp ▸ this.1, hok, this.2⟩

def notInset (m : Temporal.Marker) : Bool := m.kind != .inset

theorem handle_inset_fst (op : List Str) (k : Str) : (Temporal.handle op .inset k).1 = op := by
  rw [Temporal.handle]
  split <;> rfl

theorem seq_filter {fold : Str → Str} {ms : List Temporal.Marker} {op : List Str} (h : seqOK fold op ms) :
    seqOK fold op (ms.filter notInset) := by
  induction ms generalizing op with
  | nil => exact h
  | cons m rest ih =>
    rw [List.filter_cons]
    by_cases hm : notInset m = true
    · rw [if_pos hm]
      exact ⟨h.1, ih h.2⟩
    · have hk : m.kind = .inset := by
        cases hk : m.kind <;> simp [notInset, hk] at hm ⊢
      rw [if_neg hm]
      exact ih (op := op) (handle_inset_fst op _ ▸ hk ▸ h.2)

/-- the Onset/Offset marker the scan meets in an item -/
def markNI : Item → Option Temporal.Marker
  | .onset n _ => some ⟨.onset, n⟩
  | .offset n => some ⟨.offset, n⟩
  | .duration _ _ => none
  | .plain _ => none
  | .inset _ _ => none

def markerSeq (acts : List Act) : List Temporal.Marker := acts.filterMap fun a => markNI a.item

/-- `onset_dict` and C10's open-scope list hold the same names -/
def Keys (op : List Str) (opn : Open) : Prop := op.Nodup ∧ ∀ k, k ∈ op ↔ ∃ j, (k, j) ∈ opn

theorem closeIfOpen_mem {k : Str} {i : Nat} {st : State} {e : Str × Nat} :
    e ∈ (closeIfOpen k i st).opn ↔ e ∈ st.opn ∧ e.1 ≠ k := by
  unfold closeIfOpen
  cases hg : getOpen k st.opn with
  | some j => exact mem_delOpen
  | none => exact ⟨fun h => ⟨h, fun hk => getOpen_none hg e.2 (by rw [← hk]; exact h)⟩, fun h => h.1⟩

theorem handle_offset_mem {op : List Str} {k : Str} (h : k ∈ op) :
    Temporal.handle op .offset k = (op.erase k, none) := by simp [Temporal.handle, h]

theorem handle_offset_not {op : List Str} {k : Str} (h : k ∉ op) :
    (Temporal.handle op .offset k).2 ≠ none := by simp [Temporal.handle, h]

theorem markerSeq_append (a b : List Act) : markerSeq (a ++ b) = markerSeq a ++ markerSeq b :=
  List.filterMap_append ..

/-- one step of the scan against one step of C10's machine: both go on with matching dictionaries, or the group is
an Offset whose folded name is not a key of `onset_dict` and `onset_dict.pop(anchor)` raises `KeyError` -/
theorem step_keys (fold : Str → Str) (ts : List Int) (st : State) (op : List Str) (a : Act)
    (hk : Keys op st.opn) :
    (∃ st1, step fold ts st a = .ok st1 ∧ Keys (seqOp fold op (markerSeq [a])) st1.opn ∧
        seqOK fold op (markerSeq [a])) ∨
    (step fold ts st a = .error .unmatchedOffset ∧ ¬ seqOK fold op (markerSeq [a])) := by
  cases hitem : a.item <;>
    simp only [markerSeq, List.filterMap_cons, List.filterMap_nil, hitem, markNI, seqOK, seqOp, step, and_true]
  case onset name c =>
    refine Or.inl ⟨_, rfl, ⟨Temporal.insertKey_nodup _ _ hk.1, fun k' => ?_⟩, rfl⟩
    rw [Temporal.handle, Temporal.mem_insertKey, hk.2]
    simp only [List.mem_cons, Prod.mk.injEq, closeIfOpen_mem]
    by_cases e : k' = fold name <;> simp [e]
  case offset name =>
    cases hg : getOpen (fold name) st.opn with
    | none =>
      have hmem : fold name ∉ op := fun h =>
        let ⟨j, hj⟩ := (hk.2 _).1 h
        getOpen_none hg j hj
      exact Or.inr ⟨rfl, handle_offset_not hmem⟩
    | some j =>
      rw [handle_offset_mem ((hk.2 _).2 ⟨j, getOpen_some hg⟩)]
      refine Or.inl ⟨_, rfl, ⟨hk.1.erase _, fun k' => ?_⟩, rfl⟩
      rw [hk.1.mem_erase_iff, hk.2]
      simp only [mem_delOpen]
      exact ⟨fun ⟨hne, j, hj⟩ => ⟨j, hj, hne⟩, fun ⟨j, hj, hne⟩ => ⟨hne, j, hj⟩⟩
  all_goals exact Or.inl ⟨_, rfl, hk⟩

/-- the scan succeeds iff every Offset finds its folded name in `onset_dict`; it can fail in no other way -/
theorem run_iff (fold : Str → Str) (ts : List Int) (acts : List Act) (st : State) (op : List Str)
    (hk : Keys op st.opn) :
    ((∃ st', run fold ts st acts = .ok st') ↔ seqOK fold op (markerSeq acts)) ∧
    (∀ e, run fold ts st acts = .error e → e = .unmatchedOffset) := by
  induction acts generalizing st op with
  | nil => simp [run, markerSeq, seqOK]
  | cons a rest ih =>
    rw [show markerSeq (a :: rest) = _ from markerSeq_append [a] rest, seqOK_append]
    simp only [run]
    rcases step_keys fold ts st op a hk with ⟨st1, h1, hk1, hok⟩ | ⟨h1, hno⟩
    · simp only [h1]
      have := ih st1 _ hk1
      exact ⟨⟨fun h => ⟨hok, this.1.1 h⟩, fun h => this.1.2 h.2⟩, this.2⟩
    · simp only [h1]
      refine ⟨⟨fun hex => (by obtain ⟨_, h⟩ := hex; cases h), fun h => absurd h.1 hno⟩, fun e h => ?_⟩
      injection h with h; exact h.symm

theorem markersOf_filter (its : List Item) : (markersOf its).filter notInset = its.filterMap markNI := by
  have h : (fun it => (markerOf it).filter notInset) = markNI := funext fun it => by cases it <;> rfl
  rw [markersOf, List.filter_filterMap, h]

/-- the scan takes the Onset/Offset groups of a row first and in order; Duration groups carry no marker -/
theorem rowActs_markers (i : Nat) (r : FRow) : markerSeq (rowActs i r) = r.items.filterMap markNI := by
  have h1 : (fun it => if isMarker it = true then markNI it else none) = markNI :=
    funext fun it => by cases it <;> rfl
  have h2 : ∀ it ∈ r.items, (if isDuration it = true then markNI it else none) = none :=
    fun it _ => by cases it <;> rfl
  simp only [markerSeq, rowActs, List.filterMap_map, List.filterMap_append, Function.comp_def,
    List.filterMap_filter, h1, List.filterMap_eq_nil_iff.2 h2, List.append_nil]

theorem rowActs_filter (P : Int → Bool) (i : Nat) (r : FRow) :
    (rowActs i r).filter (fun a => P a.time) = if P r.time = true then rowActs i r else [] := by
  split
  · next h =>
    rw [List.filter_eq_self]
    intro a ha
    rw [(mem_rowActs.1 ha).2.1, h]
  · next h =>
    rw [List.filter_eq_nil_iff]
    intro a ha
    rw [(mem_rowActs.1 ha).2.1]
    exact h

theorem actsFrom_markers (P : Int → Bool) (k : Nat) (l : List FRow) :
    markerSeq ((actsFrom k l).filter fun a => P a.time) =
      l.flatMap fun r => if P r.time = true then r.items.filterMap markNI else [] := by
  induction l generalizing k with
  | nil => rfl
  | cons r rs ih =>
    simp only [actsFrom, List.filter_append, markerSeq_append, rowActs_filter, ih, List.flatMap_cons]
    split
    · rw [rowActs_markers]
    · rfl

theorem firstRows_flatMap {β : Type} (g : FRow → List β) (hg : ∀ t, g ⟨t, []⟩ = []) (prev : Option Int)
    (l : List FRow) : (merge prev l).flatMap g = (firstRows prev (merge prev l)).flatMap g := by
  induction l generalizing prev with
  | nil => rfl
  | cons r rs ih =>
    simp only [merge, firstRows]
    by_cases e : prev = some r.time
    · simp [e, hg, ih]
    · simp [e, ih]

/-- The Onset/Offset markers the scan meets at the times selected by `P` are, in order, those of C10's time
points at these times. -/
theorem history_markers (P : Int → Bool) (rows : List Row) :
    markerSeq ((history rows).filter fun a => P a.time) =
      (((Temporal.timePoints (rows.map toT)).filter fun r => P r.time).map (·.markers)).flatten.filter
        notInset := by
  have hfr : ((Temporal.timePoints (rows.map toT)).filter fun r => P r.time).map (·.markers) =
      ((firstRows none (merge none (frame rows))).filter fun r => P r.time).map fun r => markersOf r.items := by
    have := congrArg (fun l => (l.filter fun p => P p.1).map Prod.snd) (frame_is_timepoints rows)
    simpa only [List.filter_map, List.map_map, Function.comp_def] using this
  rw [hfr, history, actsFrom_markers, firstRows_flatMap _ (fun t => by split <;> rfl)]
  generalize firstRows none (merge none (frame rows)) = L
  induction L with
  | nil => rfl
  | cons r rs ih =>
    rw [List.flatMap_cons, ih, List.filter_cons]
    split
    · rw [List.map_cons, List.flatten_cons, List.filter_append, markersOf_filter]
    · rfl

/-- **valid histories are never rejected.** If the onsets are non-decreasing and C10's temporal machine
(`Temporal.run` on the time points of the file, Insets included) reports no error, the constructor does not
raise. -/
theorem valid_history_never_rejected (fold : Str → Str) (rows : List Row)
    (hord : nonDecreasing (rows.map (·.time)) = true)
    (hT : Temporal.run fold [] 0 ((Temporal.timePoints (rows.map toT)).map (·.markers)) = []) :
    ∃ b, build fold rows = .ok b := by
  have h2 := seq_filter (open_fold hT).2
  have h3 := history_markers (fun _ => true) rows
  rw [List.filter_eq_self.2 fun _ _ => rfl, List.filter_eq_self.2 fun _ _ => rfl] at h3
  rw [← h3] at h2
  obtain ⟨st, hst⟩ := (run_iff fold ((frame rows).map (·.time)) (history rows) ⟨[], []⟩ []
    ⟨List.nodup_nil, by simp⟩).1.2 h2
  simp only [build, hord, if_true, hst]
  exact ⟨_, rfl⟩

/-- classification raises only for an Onset/Offset group without Def (`IndexError`) or a Duration without a
usable value (`TypeError`) — both rejected by string validation -/
theorem classify_ok (vals : Str → Option Int) (id : Nat) (n : TNode)
    (hdef : ∀ ks, n = .group ks →
      ((directTags ks).find? (fun t => isB kOnset t || isB kOffset t)).isSome = true → defExts ks ≠ [])
    (hval : ∀ ks t, n = .group ks →
      ((directTags ks).filter (isB kDuration)).getLast? = some t → (vals t).isSome = true) :
    ∃ it, classify vals id n = .ok it := by
  fun_cases classify vals id n
  case case2 ks t hf hd =>
    have hne := hdef ks rfl (by rw [hf]; rfl)
    cases hks : defExts ks with
    | nil => exact absurd hks hne
    | cons e es =>
      rw [hks] at hd
      cases hd
  case case6 ks hf t hl hv =>
    have hsome := hval ks t rfl hl
    rw [hv] at hsome
    cases hsome
  all_goals exact ⟨_, rfl⟩

theorem toRows_times {vals : Str → Option Int} {rows : List TextRow} {id : Nat} {rs : List Row}
    (h : toRows vals id rows = .ok rs) : rs.map (·.time) = rows.map (·.time) := by
  fun_induction toRows vals id rows generalizing rs with
  | case1 =>
    cases h
    rfl
  | case2 id r rows a b rest h2 _ ih =>
    cases h
    rw [List.map_cons, List.map_cons, ih h2]
  | case3 => cases h
  | case4 => cases h

/-- **valid files are never rejected (text level).** If every top-level group classifies (`classify_ok`), the
onsets are non-decreasing and C10's temporal machine accepts the file, `EventManager(…)` does not raise. -/
theorem valid_text_never_rejected (fold : Str → Str) (vals : Str → Option Int) (rows : List TextRow)
    (rs : List Row) (hrows : toRows vals 0 rows = .ok rs)
    (hord : nonDecreasing (rows.map (·.time)) = true)
    (hT : Temporal.run fold [] 0 ((Temporal.timePoints (rs.map toT)).map (·.markers)) = []) :
    ∃ b, buildText fold vals rows = .ok b := by
  have hord' : nonDecreasing (rs.map (·.time)) = true := by rw [toRows_times hrows]; exact hord
  obtain ⟨b, hb⟩ := valid_history_never_rejected fold rs hord' hT
  exact ⟨b, by simp only [buildText, hord, if_true, hrows, hb]⟩

/-- non-vacuity on text: `(def/A, onset, (Red))` at 1 s, `(Def/a, Offset)` with an Inset group at 2 s -/
def textSample : List TextRow :=
  [⟨8, [.group [.tag ['d','e','f','/','A'], .tag ['o','n','s','e','t'], .group [.tag ['R','e','d']]]]⟩,
   ⟨16, [.group [.tag ['D','e','f','/','a'], .tag ['O','f','f','s','e','t']],
         .group [.tag ['D','e','f','/','A'], .tag ['I','n','s','e','t'], .group [.tag ['R','e','d']]]]⟩]

example : ∃ b, buildText (fun s => s.map Char.toLower) (fun _ => none) textSample = .ok b ∧
    b.procs.map (fun p => (p.start, p.stop)) = [(0, some 1)] ∧
    (baseNodes (table textSample) b 0).map render = [['(','D','e','f','/','A',',','(','R','e','d',')',')']] ∧
    b.rem = [[], [2]] ∧
    render (plainNode (table textSample) 2) =
      ['(','D','e','f','/','A',',','I','n','s','e','t',',','(','R','e','d',')',')'] :=
  ⟨⟨[8, 16], [⟨0, 0, some 1, ['a'], 0⟩], [[], [2]]⟩, by rfl, by rfl, by rfl, by rfl, by rfl⟩

/-! ## refinement: the manager's ongoing Onset processes are the validator's open set (C10) -/

/-- C10's open-scope set after the time points up to and including time `τ`
(`OnsetValidator._onsets` after validating them in order) -/
def validatorOpen (fold : Str → Str) (tps : List Temporal.TRow) (τ : Int) : List Str :=
  ((tps.filter fun r => decide (r.time ≤ τ)).map (·.markers)).foldl
    (fun op ms => (Temporal.stepPoint fold op ms).1) []

/-- kind of the last Onset/Offset marker of the folded name `k` -/
def lastNI (fold : Str → Str) (k : Str) : List Temporal.Marker → Option Temporal.MKind
  | [] => none
  | m :: ms =>
    match lastNI fold k ms with
    | some x => some x
    | none => if notInset m && fold m.name == k then some m.kind else none

/-- the Onset/Offset markers of the history up to and including time `τ` -/
def markersUpTo (τ : Int) (H : List (Int × Item)) : List Temporal.Marker :=
  (H.filter fun p => decide (p.1 ≤ τ)).filterMap fun p => markNI p.2

theorem lastNI_filter (fold : Str → Str) (k : Str) (ms : List Temporal.Marker) :
    lastNI fold k (ms.filter notInset) = lastNI fold k ms := by
  induction ms with
  | nil => rfl
  | cons m rest ih =>
    by_cases hm : notInset m = true
    · simp [hm, lastNI, ih]
    · simp [hm, lastNI, ih]
      cases lastNI fold k rest <;> rfl

theorem markersUpTo_nil_of_gt {τ : Int} {H : List (Int × Item)} (h : ∀ x ∈ H, τ < x.1) :
    markersUpTo τ H = [] := by
  rw [markersUpTo, List.filter_eq_nil_iff.2 fun x hx => mt of_decide_eq_true (Int.not_le.2 (h x hx))]
  rfl

theorem markersUpTo_cons {τ t : Int} {it : Item} {H : List (Int × Item)} (h : t ≤ τ) :
    markersUpTo τ ((t, it) :: H) = (match markNI it with | some m => [m] | none => []) ++ markersUpTo τ H := by
  simp only [markersUpTo, List.filter_cons, h, decide_true, if_true, List.filterMap_cons]
  cases markNI it <;> rfl

theorem nextTime_mem {fold : Str → Str} {k : Str} {H : List (Int × Item)} {t : Int}
    (h : nextTime fold k H = some t) : ∃ x ∈ H, x.1 = t := by
  fun_induction nextTime fold k H with
  | case1 => cases h
  | case2 t' it rest hk => exact ⟨_, List.mem_cons_self .., Option.some.inj h⟩
  | case3 t' it rest hk ih => exact (ih h).imp fun y hy => ⟨List.mem_cons_of_mem _ hy.1, hy.2⟩

theorem markNI_notInset {it : Item} {m : Temporal.Marker} (h : markNI it = some m) : notInset m = true := by
  cases it <;> simp [markNI] at h <;> subst h <;> rfl

theorem mem_ongoingKeys {ps : List SProc} {τ : Int} {k : Str} :
    k ∈ ongoingKeys ps τ ↔ ∃ q ∈ ps, q.start ≤ τ ∧ ltInf τ q.stop = true ∧ q.key = some k := by
  simp [ongoingKeys, List.mem_filterMap, List.mem_filter, and_assoc]

theorem ongoingKeys_cons (q : SProc) (ps : List SProc) (τ : Int) (k : Str) :
    (ongoingKeys (q :: ps) τ).contains k =
      ((decide (q.start ≤ τ) && ltInf τ q.stop && (q.key == some k)) || (ongoingKeys ps τ).contains k) := by
  rw [Bool.eq_iff_iff]
  simp only [List.contains_iff_mem, mem_ongoingKeys, List.mem_cons, exists_eq_or_imp, Bool.or_eq_true,
    Bool.and_eq_true, decide_eq_true_eq, beq_iff_eq, and_assoc]

/-- **The look-ahead specification is C10's forward fold.** Starting from the open set `S`, after the markers of
the history up to `τ` the name `k` is open iff an Onset process of that name is ongoing after `τ`, or `k` was in
`S` and no marker of that name comes up to `τ`. -/
theorem specFold_ongoing (fold : Str → Str) (ts : List Int) (k : Str) (τ : Int) (H : List (Int × Item))
    (hs : H.Pairwise (fun a b => a.1 ≤ b.1)) (S : Temporal.SSet) :
    Temporal.specFold S ((markersUpTo τ H).map fun m => (m.kind, fold m.name)) k =
      ((ongoingKeys (specProcs fold ts H) τ).contains k || (S k && ltInf τ (nextTime fold k H))) := by
  induction H generalizing S with
  | nil => simp [markersUpTo, Temporal.specFold, specProcs, ongoingKeys, nextTime, ltInf]
  | cons x xs ih =>
    obtain ⟨t, it⟩ := x
    rw [List.pairwise_cons] at hs
    by_cases ht : t ≤ τ
    · have hlt : decide (τ < t) = false := decide_eq_false (by omega)
      rw [markersUpTo_cons ht]
      cases it with
      | onset name c =>
        simp only [markNI, List.cons_append, List.nil_append, List.map_cons, Temporal.specFold, ih hs.2,
          Temporal.specHandle_apply, specProcs, ongoingKeys_cons, nextTime, markerKey, ht, decide_true,
          Bool.true_and]
        by_cases hk : fold name = k
        · subst hk
          simp [ltInf, hlt, Bool.or_comm]
        · simp [hk, beq_eq_false_iff_ne.2 hk]
      | offset name =>
        simp only [markNI, List.cons_append, List.nil_append, List.map_cons, Temporal.specFold, ih hs.2,
          Temporal.specHandle_apply, specProcs, nextTime, markerKey]
        by_cases hk : fold name = k
        · subst hk
          simp [ltInf, hlt]
        · simp [hk]
      | duration len c =>
        simp only [markNI, List.nil_append, ih hs.2, specProcs, ongoingKeys_cons, nextTime, markerKey]
        simp
      | plain c | inset _ c =>
        simp only [markNI, List.nil_append, ih hs.2, specProcs, nextTime, markerKey]
        simp
    · have hgt : ∀ y ∈ (t, it) :: xs, τ < y.1 := List.forall_mem_cons.2
        ⟨Int.lt_of_not_ge ht, fun y hy => Int.lt_of_lt_of_le (Int.lt_of_not_ge ht) (hs.1 y hy)⟩
      have h1 : (ongoingKeys (specProcs fold ts ((t, it) :: xs)) τ).contains k = false := by
        rw [Bool.eq_false_iff, Ne, List.contains_iff_mem, mem_ongoingKeys]
        rintro ⟨q, hq, hle, _⟩
        obtain ⟨y, hy, e⟩ := specProcs_start_mem hq
        have := hgt y hy
        omega
      have h2 : ltInf τ (nextTime fold k ((t, it) :: xs)) = true := by
        cases hn : nextTime fold k ((t, it) :: xs) with
        | none => rfl
        | some t' =>
          obtain ⟨y, hy, e⟩ := nextTime_mem hn
          exact decide_eq_true (e ▸ hgt y hy)
      rw [markersUpTo_nil_of_gt hgt, h1, h2]
      simp [Temporal.specFold]

theorem seqOp_abs (fold : Str → Str) (ms : List Temporal.Marker) (op : List Str) (hn : op.Nodup) :
    (seqOp fold op ms).Nodup ∧
    Temporal.abs (seqOp fold op ms) =
      Temporal.specFold (Temporal.abs op) (ms.map fun m => (m.kind, fold m.name)) := by
  induction ms generalizing op with
  | nil => exact ⟨hn, rfl⟩
  | cons m rest ih =>
    obtain ⟨h1, h2, _⟩ := Temporal.handle_refines op m.kind (fold m.name) hn
    simp only [seqOp, List.map_cons, Temporal.specFold, ← h2]
    exact ih _ h1

theorem lastNI_eq (fold : Str → Str) (k : Str) (ms : List Temporal.Marker) :
    lastNI fold k ms = Temporal.lastNonInset (ms.map fun m => (m.kind, fold m.name)) k := by
  induction ms with
  | nil => rfl
  | cons m rest ih =>
    simp only [lastNI, List.map_cons, Temporal.lastNonInset, ih, notInset, Bool.and_comm]
    rfl

/-- the look-ahead description of the statement, read as "the last marker of the name is an Onset" -/
theorem ongoing_iff_last_onset (fold : Str → Str) (ts : List Int) (k : Str) (τ : Int) (H : List (Int × Item))
    (hs : H.Pairwise (fun a b => a.1 ≤ b.1)) :
    k ∈ ongoingKeys (specProcs fold ts H) τ ↔ lastNI fold k (markersUpTo τ H) = some .onset := by
  have h := specFold_ongoing fold ts k τ H hs (fun _ => false)
  rw [C10.open_iff_last_onset, ← lastNI_eq, Bool.false_and, Bool.or_false] at h
  rw [← List.contains_iff_mem, ← h, beq_iff_eq]

/-- C10's machine, read the same way: a name is open iff its last marker is an Onset -/
theorem seqOp_iff_last_onset (fold : Str → Str) (k : Str) (ms : List Temporal.Marker) (op : List Str)
    (hn : op.Nodup) :
    (k ∈ seqOp fold op ms ↔ lastNI fold k ms = some .onset ∨ (lastNI fold k ms = none ∧ k ∈ op)) ∧
    (seqOp fold op ms).Nodup := by
  obtain ⟨hnd, habs⟩ := seqOp_abs fold ms op hn
  refine ⟨?_, hnd⟩
  have h := congrFun habs k
  rw [Temporal.specFold_char, ← lastNI_eq] at h
  rw [← List.contains_iff_mem, ← List.contains_iff_mem]
  change Temporal.abs _ k = true ↔ _ ∨ (_ ∧ Temporal.abs op k = true)
  rw [h]
  cases lastNI fold k ms with
  | none => simp
  | some kind => cases kind <;> simp

theorem run_prefix {fold : Str → Str} {a b : List (List Temporal.Marker)} {op : List Str} {t : Nat}
    (h : Temporal.run fold op t (a ++ b) = []) : Temporal.run fold op t a = [] := by
  induction a generalizing op t with
  | nil => rfl
  | cons ms rest ih =>
    simp only [List.cons_append, Temporal.run, List.append_eq_nil_iff, List.map_eq_nil_iff] at h ⊢
    exact ⟨h.1, ih h.2⟩

theorem filter_eq_takeWhile {α : Type} (key : α → Int) (τ : Int) (l : List α)
    (h : l.Pairwise (fun a b => key a ≤ key b)) :
    (l.filter fun a => decide (key a ≤ τ)) = l.takeWhile fun a => decide (key a ≤ τ) := by
  induction l with
  | nil => rfl
  | cons x xs ih =>
    rw [List.pairwise_cons] at h
    rw [List.filter_cons, List.takeWhile_cons, ih h.2]
    by_cases hx : key x ≤ τ
    · rw [if_pos (decide_eq_true hx), if_pos (decide_eq_true hx)]
    · rw [if_neg (mt of_decide_eq_true hx), if_neg (mt of_decide_eq_true hx), ← ih h.2, List.filter_eq_nil_iff]
      exact fun y hy hle => hx (Int.le_trans (h.1 y hy) (of_decide_eq_true hle))

theorem markersUpTo_eq (τ : Int) (acts : List Act) :
    markersUpTo τ (timed acts) = markerSeq (acts.filter fun a => decide (a.time ≤ τ)) := by
  simp only [markersUpTo, timed, markerSeq, List.filter_map, List.filterMap_map]
  rfl

/-- **refinement (C10 ⊑ C20).** For every file with non-decreasing onsets that C10's temporal machine accepts
without error, the manager is constructed, and at every time `τ` the folded names of the Onset processes
ongoing after `τ` (started at or before `τ`, not ended by then) are exactly C10's open set after the time points
up to `τ`. -/
theorem context_eq_validator_open_set (fold : Str → Str) (rows : List Row)
    (hord : nonDecreasing (rows.map (·.time)) = true)
    (hT : Temporal.run fold [] 0 ((Temporal.timePoints (rows.map toT)).map (·.markers)) = []) :
    ∃ b, build fold rows = .ok b ∧
      ∀ τ k, k ∈ ongoingKeys (spec fold rows b) τ ↔ k ∈ validatorOpen fold (Temporal.timePoints (rows.map toT)) τ := by
  obtain ⟨b, hb⟩ := valid_history_never_rejected fold rows hord hT
  refine ⟨b, hb, fun τ k => ?_⟩
  rw [ongoing_iff_last_onset fold b.ts k τ _ (history_sorted rows), markersUpTo_eq,
    history_markers (fun t => decide (t ≤ τ)), lastNI_filter]
  -- the validator accepts the time points up to `τ`, so its key list is `seqOp` of their markers
  have hsort : (Temporal.timePoints (rows.map toT)).Pairwise (fun a b => a.time ≤ b.time) := by
    have := C10.effTimes_increasing (rows.map toT)
    rw [C10.effTimes, List.pairwise_map] at this
    exact this.imp (fun h => Int.le_of_lt h)
  rw [← List.takeWhile_append_dropWhile (p := fun r => decide (r.time ≤ τ))
    (l := Temporal.timePoints (rows.map toT)), List.map_append] at hT
  obtain ⟨hfold, _⟩ := open_fold (run_prefix hT)
  rw [validatorOpen, filter_eq_takeWhile (fun r : Temporal.TRow => r.time) τ _ hsort, hfold,
    (seqOp_iff_last_onset fold k _ [] List.nodup_nil).1]
  simp only [List.not_mem_nil, and_false, or_false]

theorem not_seqOK_iff (fold : Str → Str) (ms : List Temporal.Marker) (op : List Str) :
    ¬ seqOK fold op ms ↔ ∃ pre m post, ms = pre ++ m :: post ∧ seqOK fold op pre ∧
      (Temporal.handle (seqOp fold op pre) m.kind (fold m.name)).2 ≠ none := by
  constructor
  · intro h
    induction ms generalizing op with
    | nil => exact absurd trivial h
    | cons m rest ih =>
      by_cases hA : (Temporal.handle op m.kind (fold m.name)).2 = none
      · obtain ⟨pre, m', post, e, h1, h2⟩ := ih _ fun hB => h ⟨hA, hB⟩
        exact ⟨m :: pre, m', post, by rw [e]; rfl, ⟨hA, h1⟩, h2⟩
      · exact ⟨[], m, rest, rfl, trivial, hA⟩
  · rintro ⟨pre, m, post, rfl, _, h2⟩ h
    exact h2 ((seqOK_append fold op pre (m :: post)).1 h).2.1

theorem handle_error_iff {fold : Str → Str} {pre : List Temporal.Marker} {m : Temporal.Marker}
    (hni : notInset m = true) :
    (Temporal.handle (seqOp fold [] pre) m.kind (fold m.name)).2 ≠ none ↔
      m.kind = .offset ∧ lastNI fold (fold m.name) pre ≠ some .onset := by
  have hopen := (seqOp_iff_last_onset fold (fold m.name) pre [] List.nodup_nil).1
  simp only [List.not_mem_nil, and_false, or_false] at hopen
  obtain ⟨kind, name⟩ := m
  dsimp only at hopen ⊢
  cases kind with
  | onset => simp [Temporal.handle]
  | inset => cases hni
  | offset =>
    rw [Ne, Ne, ← hopen]
    by_cases hm : fold name ∈ seqOp fold [] pre
    · simp [handle_offset_mem hm, hm]
    · simp [handle_offset_not hm, hm]

/-- **files the validator rejects.** With non-decreasing onsets the constructor raises iff the scan meets an
Offset group whose folded name is not open at that point — its last earlier Onset/Offset marker is not an Onset
(C10's OFFSET_BEFORE_ONSET) — and then with `KeyError` (`Reject.unmatchedOffset`); it raises in no other way. -/
theorem rejects_iff_unmatched_offset (fold : Str → Str) (rows : List Row)
    (hord : nonDecreasing (rows.map (·.time)) = true) :
    (build fold rows = .error .unmatchedOffset ↔
      ∃ pre m post, markerSeq (history rows) = pre ++ m :: post ∧ m.kind = .offset ∧ seqOK fold [] pre ∧
        lastNI fold (fold m.name) pre ≠ some .onset) ∧
    (∀ e, build fold rows = .error e → e = .unmatchedOffset) := by
  have hr := run_iff fold ((frame rows).map (·.time)) (history rows) ⟨[], []⟩ [] ⟨List.nodup_nil, by simp⟩
  have hbuild : ∀ e, build fold rows = .error e ↔
      run fold ((frame rows).map (·.time)) ⟨[], []⟩ (history rows) = .error e := by
    intro e
    simp only [build, hord, if_true]
    cases run fold ((frame rows).map (·.time)) ⟨[], []⟩ (history rows) <;> simp
  refine ⟨?_, fun e he => hr.2 e ((hbuild e).1 he)⟩
  have hfail : run fold ((frame rows).map (·.time)) ⟨[], []⟩ (history rows) = .error .unmatchedOffset ↔
      ¬ seqOK fold [] (markerSeq (history rows)) := by
    rw [← hr.1]
    cases hrun : run fold ((frame rows).map (·.time)) ⟨[], []⟩ (history rows) with
    | ok st => simp
    | error e => simp [hr.2 e hrun]
  rw [hbuild, hfail, not_seqOK_iff]
  refine exists_congr fun pre => exists_congr fun m => exists_congr fun post => and_congr_right fun e => ?_
  have hm : m ∈ markerSeq (history rows) := e ▸ List.mem_append_right _ (List.mem_cons_self ..)
  obtain ⟨a, _, ha⟩ := List.mem_filterMap.1 hm
  rw [handle_error_iff (markNI_notInset ha)]
  exact and_left_comm

/-- Only files with a later onset smaller than an earlier one are rejected for their order
(`reject_unordered`). -/
theorem accept_ordered (fold : Str → Str) (rows : List Row)
    (h : (rows.map (·.time)).Pairwise (· ≤ ·)) : build fold rows ≠ .error .unordered := fun heq =>
  nomatch (rejects_iff_unmatched_offset fold rows ((nonDecreasing_pairwise _).2 h)).2 _ heq

/-- the validator's other temporal errors do not stop the manager: a name twice at one time point, an Inset
without Onset -/
example : Temporal.run id [] 0 ((Temporal.timePoints
      ([⟨8, [.onset ['a'] 1, .onset ['a'] 2, .inset ['b'] 3], []⟩].map toT)).map (·.markers)) ≠ [] ∧
    (build id [⟨8, [.onset ['a'] 1, .onset ['a'] 2, .inset ['b'] 3], []⟩]).toOption.map
      (fun b => (b.procs.map fun p => (p.start, p.stop, p.content), b.rem)) =
      some ([(0, some 0, 1), (0, some 1, 2)], [[3]]) := by
  constructor
  · decide
  · rfl

example : build id [⟨8, [.offset ['a']], []⟩] = .error .unmatchedOffset := by rfl

/-- **Duration, by times.** The process of a Duration group of length `d` started at time `t` is in the context
of exactly the first rows with `t < τ < t + d` and the later rows of a merged time point with `t ≤ τ < t + d`. -/
theorem duration_context_interval (fold : Str → Str) (rows : List Row) (b : Built)
    (h : build fold rows = .ok b) (a : Act) (len : Int) (c : Nat) (ha : a ∈ history rows)
    (hitem : a.item = .duration len c) :
    ∃ p ∈ b.procs, p.start = a.idx ∧ p.content = c ∧
      (∀ i τ, First b.ts i τ → (inContext i p = true ↔ a.time < τ ∧ τ < a.time + len)) ∧
      (∀ i τ, b.ts[i]? = some τ → ¬ First b.ts i τ → (inContext i p = true ↔ a.time ≤ τ ∧ τ < a.time + len)) := by
  obtain ⟨hs, hf⟩ := build_sorted_first h
  obtain ⟨p, hp, h1, h2, h3, _⟩ := boundaries_duration_exact fold rows b h a len c ha hitem
  refine ⟨p, hp, h1, h2, fun i τ hi => ?_, fun i τ hi hn => ?_⟩
  · rw [h3 i τ hi.1, lt_first_iff hs hi (hf a ha).1]
  · rw [h3 i τ hi, first_lt_iff_later hs (hf a ha) hi hn]

theorem frame_item_in_history {rows : List Row} {fr : FRow} {it : Item} (hfr : fr ∈ splitRows rows)
    (hit : it ∈ fr.items) (hk : isMarker it = true ∨ isDuration it = true) :
    ∃ a ∈ history rows, a.item = it ∧ a.time = fr.time := by
  have hocc : (fr.time, it) ∈ occ (merge none (frame rows)) := by
    rw [occ_merge none]
    exact List.mem_flatMap.2 ⟨fr, (mem_sortRows fr _).2 hfr, List.mem_map.2 ⟨it, hit, rfl⟩⟩
  obtain ⟨row, hrow, hmem⟩ := List.mem_flatMap.1 hocc
  obtain ⟨it', hit', e⟩ := List.mem_map.1 hmem
  injection e with e1 e2
  subst e2
  obtain ⟨j, hj⟩ := List.getElem?_of_mem hrow
  exact ⟨⟨0 + j, row.time, it'⟩, mem_actsFrom.2 ⟨j, row, hj, mem_rowActs.2 ⟨rfl, rfl, hit', hk⟩⟩, rfl, e1⟩

theorem delayRows_eq (rows : List Row) :
    delayRows rows = rows.flatMap fun r => r.delayed.map fun di => ⟨r.time + di.1, [di.2]⟩ := by
  induction rows with
  | nil => rfl
  | cons r rs ih => rw [delayRows, ih, List.flatMap_cons]

/-- **Delay.** A temporal group of a row acts at the row's own time; a group inside a top-level Delay group
acts at the row's time plus the delay. -/
theorem delay_shifts_start (rows : List Row) (r : Row) (hr : r ∈ rows) :
    (∀ it ∈ r.items, (isMarker it = true ∨ isDuration it = true) →
      ∃ a ∈ history rows, a.item = it ∧ a.time = r.time) ∧
    (∀ d it, (d, it) ∈ r.delayed → (isMarker it = true ∨ isDuration it = true) →
      ∃ a ∈ history rows, a.item = it ∧ a.time = r.time + d) := by
  constructor
  · intro it hit hk
    have : (⟨r.time, r.items⟩ : FRow) ∈ splitRows rows := by
      simp only [splitRows, ownRows, List.mem_append, List.mem_map]
      exact Or.inl ⟨r, hr, rfl⟩
    exact frame_item_in_history this hit hk
  · intro d it hd hk
    have : (⟨r.time + d, [it]⟩ : FRow) ∈ splitRows rows := by
      rw [splitRows, delayRows_eq]
      exact List.mem_append_right _ (List.mem_flatMap.2 ⟨r, hr, List.mem_map.2 ⟨(d, it), hd, rfl⟩⟩)
    exact frame_item_in_history this (by simp) hk

def renItem (ren : Str → Str) : Item → Item
  | .onset n c => .onset (ren n) c
  | .offset n => .offset (ren n)
  | .inset n c => .inset (ren n) c
  | .duration l c => .duration l c
  | .plain c => .plain c

def renRow (ren : Str → Str) (r : Row) : Row :=
  ⟨r.time, r.items.map (renItem ren), r.delayed.map fun di => (di.1, renItem ren di.2)⟩
def renF (ren : Str → Str) (r : FRow) : FRow := ⟨r.time, r.items.map (renItem ren)⟩
def renAct (ren : Str → Str) (a : Act) : Act := ⟨a.idx, a.time, renItem ren a.item⟩

theorem splitRows_ren (ren : Str → Str) (rows : List Row) :
    splitRows (rows.map (renRow ren)) = (splitRows rows).map (renF ren) := by
  simp [splitRows, ownRows, delayRows_eq, List.flatMap_map, List.map_flatMap, renRow, renF, Function.comp_def]

theorem sortRows_ren (ren : Str → Str) (l : List FRow) :
    sortRows (l.map (renF ren)) = (sortRows l).map (renF ren) := by
  rw [sortRows_eq, sortRows_eq, SortBy.sortBy_map (·.time) (renF ren) (·.time) (fun _ => rfl)]

theorem groupItems_ren (ren : Str → Str) (t : Int) (l : List FRow) :
    groupItems t (l.map (renF ren)) = (groupItems t l).map (renItem ren) := by
  induction l with
  | nil => rfl
  | cons x xs ih =>
    simp only [List.map_cons, groupItems]
    have : (renF ren x).time = x.time := rfl
    rw [this]
    split
    · simp [ih, renF]
    · rfl

theorem merge_ren (ren : Str → Str) (prev : Option Int) (l : List FRow) :
    merge prev (l.map (renF ren)) = (merge prev l).map (renF ren) := by
  induction l generalizing prev with
  | nil => rfl
  | cons x xs ih =>
    simp only [List.map_cons, merge, ih, groupItems_ren]
    have : (renF ren x).time = x.time := rfl
    rw [this]
    congr 1
    simp only [renF]
    congr 1
    split <;> simp

theorem rowActs_ren (ren : Str → Str) (i : Nat) (r : FRow) :
    rowActs i (renF ren r) = (rowActs i r).map (renAct ren) := by
  have hm : isMarker ∘ renItem ren = isMarker := funext fun it => by cases it <;> rfl
  have hd : isDuration ∘ renItem ren = isDuration := funext fun it => by cases it <;> rfl
  simp only [rowActs, renF, List.filter_map, hm, hd, ← List.map_append, List.map_map]
  rfl

theorem actsFrom_ren (ren : Str → Str) (k : Nat) (l : List FRow) :
    actsFrom k (l.map (renF ren)) = (actsFrom k l).map (renAct ren) := by
  induction l generalizing k with
  | nil => rfl
  | cons x xs ih => simp only [List.map_cons, actsFrom, rowActs_ren, ih, List.map_append]

theorem step_ren (fold ren : Str → Str) (hren : ∀ n, fold (ren n) = fold n) (ts : List Int) (st : State)
    (a : Act) : step fold ts st (renAct ren a) = step fold ts st a := by
  cases hi : a.item <;> simp [step, renAct, renItem, hi, hren]

theorem run_ren (fold ren : Str → Str) (hren : ∀ n, fold (ren n) = fold n) (ts : List Int) (acts : List Act)
    (st : State) : run fold ts st (acts.map (renAct ren)) = run fold ts st acts := by
  induction acts generalizing st with
  | nil => rfl
  | cons a rest ih =>
    simp only [List.map_cons, run, step_ren fold ren hren]
    cases step fold ts st a with
    | ok st1 => exact ih st1
    | error e => rfl

theorem plainOf_ren (ren : Str → Str) (its : List Item) : plainOf (its.map (renItem ren)) = plainOf its := by
  induction its with
  | nil => rfl
  | cons x xs ih => cases x <;> simp [plainOf, renItem, ih]

/-- **case-insensitive.** Respelling the definition names of the file without changing their folded form
(`Def/Cue` / `def/CUE`) changes nothing the manager reports: same onsets, same processes with the same extents,
hence the same `base`, `contexts` and remainder — and the same rejection. -/
theorem context_case_insensitive (fold ren : Str → Str) (hren : ∀ n, fold (ren n) = fold n) (rows : List Row) :
    build fold (rows.map (renRow ren)) = build fold rows := by
  have hframe : frame (rows.map (renRow ren)) = (frame rows).map (renF ren) := by
    simp only [frame, splitRows_ren, sortRows_ren]
  have hts : (frame (rows.map (renRow ren))).map (·.time) = (frame rows).map (·.time) := by
    rw [hframe, List.map_map]; rfl
  have hhist : history (rows.map (renRow ren)) = (history rows).map (renAct ren) := by
    simp only [history, hframe, merge_ren, actsFrom_ren]
  have htimes : (rows.map (renRow ren)).map (·.time) = rows.map (·.time) := by
    rw [List.map_map]; rfl
  have hrem : (merge none (frame (rows.map (renRow ren)))).map (fun r => plainOf r.items) =
      (merge none (frame rows)).map (fun r => plainOf r.items) := by
    rw [hframe, merge_ren, List.map_map]
    apply List.map_congr_left
    intro r _
    simp [renF, plainOf_ren]
  simp only [build, htimes, hts, hhist, run_ren fold ren hren, hrem]

/-- **identical contents, distinct processes.** `contextAt` / `baseAt` list processes (one entry per
`TemporalEvent`): two Duration processes with the same text id `7` are both listed, whether they overlap in
time (started at 0 s and 1 s) or start at the same time point from two rows with equal onsets. -/
theorem identical_processes_both_listed :
    (∃ b, build id [⟨0, [.duration 24 7], []⟩, ⟨8, [.duration 24 7], []⟩, ⟨16, [], []⟩] = .ok b ∧
      contexts b = [[], [7], [7, 7]] ∧ base b = [[7], [7], []] ∧
      specContext (spec id [⟨0, [.duration 24 7], []⟩, ⟨8, [.duration 24 7], []⟩, ⟨16, [], []⟩] b) 16 = [7, 7]) ∧
    (∃ b, build id [⟨0, [.duration 24 7], []⟩, ⟨0, [.duration 16 7], []⟩, ⟨8, [], []⟩] = .ok b ∧
      contexts b = [[], [7, 7], [7, 7]] ∧ base b = [[7, 7], [], []]) :=
  ⟨⟨⟨[0, 8, 16], [⟨0, 0, some 3, [], 7⟩, ⟨1, 1, some 3, [], 7⟩], [[], [], []]⟩, by rfl, rfl, rfl, rfl⟩,
   ⟨⟨[0, 0, 8], [⟨0, 0, some 3, [], 7⟩, ⟨1, 0, some 3, [], 7⟩], [[], [], []]⟩, by rfl, rfl, rfl⟩⟩

end HedVerif.C20
