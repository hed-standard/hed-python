/-
Closed mode of C07 and C08: the parametric theorems of `Props/C07.lean` and `Props/C08.lean`, instantiated with the
string-validator model `Validate` (C01) in place of the recorded oracles, the lemmas that turn the oracle hypothesis of
`row_equals_string` into one about `Validate` (`anyError_rissue`, `filter_rissue`), and that the driver's table-driven
evaluation is the closed function itself.  Not instantiated: `wellformed_ok` / `wellformed_defs_ok` (`OracleOK`), the
label theorems beyond `labels`, and the `fault_*` of `validate_structure`, which do not consult the oracle.
-/
import HedVerif.Model.Closed
import HedVerif.Props.C01
import HedVerif.Props.C07
import HedVerif.Props.C08

namespace HedVerif.Closed
open HedVerif HedVerif.Validate

theorem memo_tabulate {β} (f : Str → β) (texts : List Str) : memo f (tabulate f texts) = f := by
  funext t
  unfold memo
  split
  · rename_i e he
    have hm := List.mem_of_find?_eq_some he
    have hp := List.find?_some he
    obtain ⟨u, -, rfl⟩ := List.mem_map.mp (by simpa [tabulate] using hm)
    simp at hp
    subst hp
    rfl
  · rfl

theorem memoTab_eq (o : Tabular.Oracle) (texts : List Str) : memoTab o texts = o := by
  simp [memoTab, memo_tabulate]

theorem memoSidecar_eq (o : SidecarV.Oracle) (texts : List Str) : memoSidecar o texts = o := by
  simp [memoSidecar, memo_tabulate]

theorem rissue_isError (i : Validate.Issue) : (rissue i).isError = i.isError := by
  rfl

theorem anyError_rissue (l : List Validate.Issue) : Tabular.anyError (l.map rissue) = hasError l := by
  simp [Tabular.anyError, hasError, List.any_map, Function.comp_def, rissue_isError]

theorem filter_rissue (l : List Validate.Issue) :
    (l.map rissue).filter Tabular.RIssue.isError = (errors l).map rissue := by
  simp [errors, List.filter_map, Function.comp_def, rissue_isError]

theorem pair_isError (col key : Option Str) (i : Validate.Issue) :
    (SidecarV.ext col key (pair i)).isError = i.isError := by
  rfl

theorem errors_validateP {env : Env} {text : Str} {p : Parsed} (hb : hasError (basicP env false text p) = false) :
    errors (validateP env false text p) = errors (Validate.fullIssues env text.length p) := by
  have hnil : (basicP env false text p).filter Issue.isError = [] :=
    List.filter_eq_nil_iff.mpr (List.any_eq_false.mp hb)
  simp only [validateP, hb, Bool.false_eq_true, if_false, errors, List.filter_append, hnil, List.nil_append]

/-! ### the entries' trees (definition model) do not depend on the dictionary -/

mutual
theorem resolveNode_envWith (env : Env) (dd : Defs.DefDict) (text : Str) :
    ∀ n : Node, resolveNode (envWith env dd) text n = resolveNode env text n
  | .tag _ _ => rfl
  | .group a b kids => by simp only [resolveNode]; rw [resolveList_envWith env dd text kids]
theorem resolveList_envWith (env : Env) (dd : Defs.DefDict) (text : Str) :
    ∀ l : List Node, resolveList (envWith env dd) text l = resolveList env text l
  | [] => rfl
  | n :: ns => by simp only [resolveList]; rw [resolveNode_envWith env dd text n, resolveList_envWith env dd text ns]
end

mutual
theorem toDefsNode_envWith (env : Env) (dd : Defs.DefDict) : ∀ n : RNode, toDefsNode (envWith env dd) n = toDefsNode env n
  | .tag _ => rfl
  | .group s kids => by simp only [toDefsNode]; rw [toDefsList_envWith env dd kids]
theorem toDefsList_envWith (env : Env) (dd : Defs.DefDict) : ∀ l : List RNode, toDefsList (envWith env dd) l = toDefsList env l
  | [] => rfl
  | n :: ns => by simp only [toDefsList]; rw [toDefsNode_envWith env dd n, toDefsList_envWith env dd ns]
end

theorem toDefs_envWith (env : Env) (dd : Defs.DefDict) (s : Str) : toDefs (envWith env dd) s = toDefs env s := by
  simp only [toDefs, parse, toDefsList_envWith, resolveList_envWith]

end HedVerif.Closed

namespace HedVerif.C07
open HedVerif HedVerif.Tabular HedVerif.Closed

/-! ### `closeCfg` replaces the oracle and nothing else

Stated once: asking the unifier for these equations inside a proof makes it unfold the string validator. -/

theorem closeCfg_o (env : Validate.Env) (kB : RIssue) (cfg : Cfg) : (closeCfg env kB cfg).o = tabOracle env kB := rfl

theorem seriesText_closeCfg (env : Validate.Env) (kB : RIssue) (cfg : Cfg) (r : Row) :
    seriesText (closeCfg env kB cfg) r = seriesText cfg r := rfl

theorem rowText_closeCfg (env : Validate.Env) (kB : RIssue) (cfg : Cfg) (r : Row) :
    rowText (closeCfg env kB cfg) r = rowText cfg r := rfl

theorem sel_closeCfg (env : Validate.Env) (kB : RIssue) (cfg : Cfg) (k : Nat) :
    sel (closeCfg env kB cfg) k = sel cfg k := rfl

/-- `eval_closed`: what the driver computes (every consulted string validated once, results looked up) is
`validateClosed`. -/
theorem eval_closed (env : Validate.Env) (kB : RIssue) (cfg : Cfg) (T : List Row) (texts : List Str) :
    validate { closeCfg env kB cfg with o := memoTab (closeCfg env kB cfg).o texts } T = validateClosed env kB cfg T := by
  rw [memoTab_eq]; rfl

/-- `total_closed`: with the per-row onset mask and the Delay guard (hed-python as committed), closed file validation
returns a list of issues for every environment (schema, definitions), configuration and table. -/
theorem total_closed (env : Validate.Env) (kB : RIssue) (cfg : Cfg) (T : List Row) (hm : cfg.maskByRow = true)
    (hg : cfg.guardDelay = true) : ∃ out, validateClosed env kB cfg T = .ok out :=
  total (closeCfg env kB cfg) T hm hg

theorem labels_closed (env : Validate.Env) (kB : RIssue) (cfg : Cfg) (T : List Row) (out : List Issue)
    (h : validateClosed env kB cfg T = .ok out) : ∀ i ∈ out, WellLabelled (closeCfg env kB cfg) T i :=
  labels (closeCfg env kB cfg) T out h

/-- `cell_issue_closed`: an issue attributed to a cell is an issue `Validate.basic` finds in the text of that cell of
that file row, under its published code and kind. -/
theorem cell_issue_closed (env : Validate.Env) (kB : RIssue) (cfg : Cfg) (T : List Row) (out : List Issue)
    (h : validateClosed env kB cfg T = .ok out) (i : Issue) (hi : i ∈ out) (p c : Nat) (hs : i.src = .cell p c) :
    ∃ k r name vi, T[k]? = some r ∧ cfg.columns[c]? = some name ∧ r.cells[c]? = some i.text ∧
      vi ∈ Validate.basic env false i.text ∧ i.kind = vi.code ++ [':'] ++ vi.kind.name ∧ i.sev = vi.sev ∧
      i.row = some (k + cfg.rowAdj) ∧ i.col = some name := by
  have hl := labels_closed env kB cfg T out h i hi
  simp only [WellLabelled, hs] at hl
  obtain ⟨k, r, name, h1, h2, h3, -, h5, h6, h7⟩ := hl
  simp only [closeCfg_o, tabOracle, Closed.cellIssues] at h5
  obtain ⟨vi, hvi, he⟩ := List.mem_map.mp h5
  simp only [rissue, RIssue.mk.injEq] at he
  exact ⟨k, r, name, vi, h1, h2, h3, hvi, he.1.symm, he.2.symm, h6, h7⟩

/-- `cell_errors_kept_closed`: every issue `Validate.basic` finds in a looked-at cell is reported with the file row and
the column of the cell. -/
theorem cell_errors_kept_closed (env : Validate.Env) (kB : RIssue) (cfg : Cfg) (T : List Row) (out : List Issue)
    (h : validateClosed env kB cfg T = .ok out) (k : Nat) (r : Row) (hk : T[k]? = some r) (c : Nat) (name x : Str)
    (hc : (c, name, x) ∈ live cfg r) (vi : Validate.Issue) (hv : vi ∈ Validate.basic env false x) :
    ∃ i ∈ out, i.kind = vi.code ++ [':'] ++ vi.kind.name ∧ i.sev = vi.sev ∧ i.row = some (k + cfg.rowAdj) ∧
      i.col = some name ∧ i.text = x :=
  cell_errors_kept (closeCfg env kB cfg) T out h k r hk c name x hc (rissue vi) (List.mem_map_of_mem hv)

/-- `row_equals_string_closed`: in a file without onset column, for a row none of whose looked-at cells has a
`Validate.basic` error, the error kinds attributed to the row are exactly those of `Validate`'s full-string checks on
the `","`-join of its cells, and of the rule "temporal tags need a time". -/
theorem row_equals_string_closed (env : Validate.Env) (kB : RIssue) (cfg : Cfg) (T : List Row) (out : List Issue)
    (h : validateClosed env kB cfg T = .ok out) (ho : cfg.hasOnset = false) (hkey : cfg.kKey.isError = false)
    (k : Nat) (r : Row) (hk : T[k]? = some r)
    (hclean : ∀ c ∈ live cfg r, Validate.hasError (Validate.basic env false c.2.2) = false) (hne : live cfg r ≠ []) :
    ((out.filter (sel cfg k)).map (·.kind)).Perm
      (((Validate.errors (Validate.fullIssues env (rowText cfg r).length (Validate.parse env (rowText cfg r)))).map
          fun vi => vi.code ++ [':'] ++ vi.kind.name) ++
        ((bannedIssues env kB (rowText cfg r)).filter RIssue.isError).map (·.kind)) := by
  have hc' : ∀ c ∈ live (closeCfg env kB cfg) r, anyError ((closeCfg env kB cfg).o.cell c.2.2) = false :=
    fun c hc => (anyError_rissue _).trans (hclean c hc)
  have := row_equals_string (closeCfg env kB cfg) T out h ho hkey k r hk hc' hne
  simp only [closeCfg_o, tabOracle, Closed.fullIssues] at this
  rw [sel_closeCfg, rowText_closeCfg, List.filter_append, List.map_append,
    filter_rissue, List.map_map] at this
  exact this

/-- `row_equals_validate_closed`: if moreover the joined text itself passes the basic checks, these are the error kinds
of `Validate.validate` (the complete string validation of C01) on the joined text. -/
theorem row_equals_validate_closed (env : Validate.Env) (kB : RIssue) (cfg : Cfg) (T : List Row) (out : List Issue)
    (h : validateClosed env kB cfg T = .ok out) (ho : cfg.hasOnset = false) (hkey : cfg.kKey.isError = false)
    (k : Nat) (r : Row) (hk : T[k]? = some r)
    (hclean : ∀ c ∈ live cfg r, Validate.hasError (Validate.basic env false c.2.2) = false) (hne : live cfg r ≠ [])
    (hjoin : Validate.hasError (Validate.basic env false (rowText cfg r)) = false) :
    ((out.filter (sel cfg k)).map (·.kind)).Perm
      (((Validate.errors (Validate.validate env false (rowText cfg r))).map fun vi => vi.code ++ [':'] ++ vi.kind.name) ++
        ((bannedIssues env kB (rowText cfg r)).filter RIssue.isError).map (·.kind)) := by
  have := row_equals_string_closed env kB cfg T out h ho hkey k r hk hclean hne
  rwa [Validate.validate, errors_validateP hjoin]

theorem string_in_basic {env : Validate.Env} {ph : Bool} {text : Str} {i : Validate.Issue}
    (h : i ∈ Validate.stringIssues env ph text (Validate.parse env text)) : i ∈ Validate.basic env ph text := by
  unfold Validate.basic Validate.basicP
  simp only
  split
  · exact h
  · split
    · exact h
    · split
      · exact List.mem_append_left _ h
      · exact List.mem_append_left _ (List.mem_append_left _ h)

/-- `unbalanced_cell_reported_closed`: end to end, with no oracle left: a looked-at cell whose parentheses do not match
is reported as an error of code PARENTHESES_MISMATCH at the file row and the column of that cell, whatever the schema,
the definitions, and the rest of the file. -/
theorem unbalanced_cell_reported_closed (env : Validate.Env) (kB : RIssue) (cfg : Cfg) (T : List Row) (out : List Issue)
    (h : validateClosed env kB cfg T = .ok out) (k : Nat) (r : Row) (hk : T[k]? = some r) (c : Nat) (name x : Str)
    (hc : (c, name, x) ∈ live cfg r) (hp : Paren.mismatch x = true) :
    ∃ i ∈ out, i.kind = Validate.Kind.parentheses.code ++ [':'] ++ Validate.Kind.parentheses.name ∧ i.sev < 10 ∧
      i.row = some (k + cfg.rowAdj) ∧ i.col = some name ∧ i.text = x := by
  have hv : ({ Validate.Issue.plain .parentheses with sub := some (x.count '(', x.count ')') } : Validate.Issue)
      ∈ Validate.basic env false x := by
    apply string_in_basic
    simp only [Validate.stringIssues, Validate.stringPhase, Validate.parenIssues, hp, List.mem_append]
    exact Or.inl (Or.inl (Or.inr (by simp)))
  obtain ⟨i, hi, h1, h2, h3, h4, h5⟩ := cell_errors_kept_closed env kB cfg T out h k r hk c name x hc _ hv
  exact ⟨i, hi, h1, by rw [h2]; show Validate.Kind.parentheses.sev < 10; decide, h3, h4, h5⟩

/-! #### rows with a malformed cell: row-level checks on the concatenated cell trees (`validateClosedCells`) -/

/-- `cells_eq_closed`: if no row reaches the row-level checks with a malformed cell, the variant that takes the cells'
trees is the closed pipeline itself. -/
theorem cells_eq_closed (env : Validate.Env) (kB : RIssue) (cfg : Cfg) (T : List Row)
    (h : T.any (rowSplit env kB cfg) = false) : validateClosedCells env kB cfg T = validateClosed env kB cfg T := by
  have hs : splitRows env kB cfg T = [] := List.filter_eq_nil_iff.mpr (List.any_eq_false.mp h)
  unfold validateClosedCells validateClosed closeCfg cellsOracle
  simp [hs]

/-- `total_closed_cells`: the variant never raises either (same two flags). -/
theorem total_closed_cells (env : Validate.Env) (kB : RIssue) (cfg : Cfg) (T : List Row) (hm : cfg.maskByRow = true)
    (hg : cfg.guardDelay = true) : ∃ out, validateClosedCells env kB cfg T = .ok out :=
  total { cfg with o := cellsOracle env kB cfg T } T hm hg

/-- `cell_errors_kept_closed_cells`: every `Validate.basic` issue of a looked-at cell is reported by the variant too,
with the file row and the column of the cell (in particular the malformed cell itself is reported). -/
theorem cell_errors_kept_closed_cells (env : Validate.Env) (kB : RIssue) (cfg : Cfg) (T : List Row) (out : List Issue)
    (h : validateClosedCells env kB cfg T = .ok out) (k : Nat) (r : Row) (hk : T[k]? = some r) (c : Nat) (name x : Str)
    (hc : (c, name, x) ∈ live cfg r) (vi : Validate.Issue) (hv : vi ∈ Validate.basic env false x) :
    ∃ i ∈ out, i.kind = vi.code ++ [':'] ++ vi.kind.name ∧ i.sev = vi.sev ∧ i.row = some (k + cfg.rowAdj) ∧
      i.col = some name ∧ i.text = x :=
  cell_errors_kept { cfg with o := cellsOracle env kB cfg T } T out h k r hk c name x hc (rissue vi)
    (List.mem_map_of_mem hv)

/-- `eval_closed_cells`: the driver's table-driven evaluation of the variant. -/
theorem eval_closed_cells (env : Validate.Env) (kB : RIssue) (cfg : Cfg) (T : List Row) (texts : List Str) :
    validate { cfg with o := memoTab (cellsOracle env kB cfg T) texts } T = validateClosedCells env kB cfg T := by
  rw [memoTab_eq]; rfl

/-! #### Delay groups: `Oracle.items` closed by `Validate.delayItems` -/

/-- `items_closed`: what `split_delay_tags` sees of a row in the closed pipeline: nothing unless `delay/` occurs in the
row's `", "`-joined text; else the top-level children of that text as `Validate.delayItems` prints them, each group holding
a Delay tag with the value of `value_as_default_unit()` in eighths of a second (`absent` → no value, `raises` → ValueError).
Inside the fragment (`delayOutside = false`) no value is defaulted: every Delay value is on the grid and decided. -/
theorem items_closed (env : Validate.Env) (kB : RIssue) (cfg : Cfg) (r : Row) :
    rowItems (closeCfg env kB cfg) r =
      (if hasDelay (seriesText cfg r) then
        (Validate.delayItems env (seriesText cfg r)).map fun x => ⟨x.1, x.2.map fun v => (gridVal v).getD .bad⟩
       else []) ∧
    (delayOutside env (seriesText cfg r) = false → hasDelay (seriesText cfg r) = true →
      ∀ x ∈ Validate.delayItems env (seriesText cfg r), ∀ v, x.2 = some v →
        ∃ dv, gridVal v = some dv ∧ (⟨x.1, some dv⟩ : Item) ∈ rowItems (closeCfg env kB cfg) r) := by
  have h1 : rowItems (closeCfg env kB cfg) r =
      (if hasDelay (seriesText cfg r) then
        (Validate.delayItems env (seriesText cfg r)).map fun x => ⟨x.1, x.2.map fun v => (gridVal v).getD .bad⟩
       else []) := by
    simp only [rowItems, closeCfg_o, tabOracle, seriesText_closeCfg, itemsOf]
    split <;> rfl
  refine ⟨h1, ?_⟩
  intro hout hd x hx v hv
  rw [delayOutside, hd, Bool.true_and, List.any_eq_false] at hout
  have hgrid := hout x hx
  rw [hv] at hgrid
  cases hg : gridVal v with
  | none => exact absurd (congrArg Option.isNone hg) hgrid
  | some dv =>
    refine ⟨dv, rfl, ?_⟩
    rw [h1, if_pos hd]
    exact List.mem_map.mpr ⟨x, hx, by rw [hv, Option.map_some, hg]; rfl⟩

/-- on-grid values: `2.5 s` is 20 eighths, `0.3 s` is off the grid -/
example : eighths ⟨25, -1⟩ = some 20 ∧ eighths ⟨3, -1⟩ = none ∧ eighths ⟨2, 0⟩ = some 16 ∧ eighths ⟨-5, -1⟩ = some (-4) := by
  decide

namespace DelayDemo
open HedVerif.Schema HedVerif.Validate

def names : List Str :=
  [['R','e','d'], ['D','e','f'], ['D','e','f','/','#'], ['O','n','s','e','t'], ['I','n','s','e','t'], ['D','e','l','a','y'], ['D','e','l','a','y','/','#']]

def secondUnit : Units.UnitDef := ⟨['s'], true, true, false, some ⟨1, 0⟩, ['s']⟩

/-- Red; Def (requireChild) > #; Onset, Inset (topLevelTagGroup); Delay (topLevelTagGroup, requireChild) > # (takesValue,
numericClass, unit class with the SI symbol `s` as default unit) -/
def env0 : Env :=
  { vocab := Vocab.build fold (names.map splitSlash), ns := [],
    attrs := #[{}, { requireChild := true }, { takesValue := true, parent := some 1 },
               { topLevelTagGroup := true }, { topLevelTagGroup := true },
               { topLevelTagGroup := true, requireChild := true },
               { takesValue := true, unitClasses := [0], valueClasses := [['n','u','m','e','r','i','c','C','l','a','s','s']], parent := some 5 }],
    mods := [],
    unitClasses := #[⟨['t'], [secondUnit], some ['s']⟩],
    modern := true, cd := {} }

/-- definition `A` ↦ `(Red)` -/
def env : Env := { env0 with defs := [⟨['a'], false, resolveList env0 ['R','e','d'] (Tree.construct ['R','e','d'])⟩] }

def kT : Temporal.Err → RIssue
  | .sameDefs => ⟨['S'], 1⟩
  | .offsetBeforeOnset => ⟨['O'], 1⟩
  | .insetBeforeOnset => ⟨['I'], 1⟩

def cfg : Cfg :=
  { rowAdj := 2, hasOnset := true, columns := [['H']], catCols := [], mapIssues := [], refs := [], allColumns := [],
    maskByRow := true, guardDelay := true, kKey := ⟨['K'], 10⟩, kRef := ⟨['F'], 1⟩, kUnordered := ⟨['U'], 10⟩,
    kTemporal := kT, o := demoOracle }

def delayedOnset : Str := ['(','D','e','l','a','y','/','1',' ','s',',',' ','D','e','f','/','A',',',' ','O','n','s','e','t',')']
def inset : Str := ['(','D','e','f','/','A',',',' ','I','n','s','e','t',')']

/-- onsets 1.0 s, 1.5 s, 3.0 s: `(Delay/1 s, Def/A, Onset)`, `(Def/A, Inset)`, `(Def/A, Inset)` -/
def file : List Row := [⟨some 8, [delayedOnset], []⟩, ⟨some 12, [inset], []⟩, ⟨some 24, [inset], []⟩]

/-- the Delay group of the first row is moved to the time point 2.0 s (16 eighths), after the second row -/
example : (timeFrame (closeCfg env ⟨['B'], 1⟩ cfg) file).map (fun x => (x.1, x.2.2)) = [(8, 0), (12, 1), (16, 0), (24, 2)] := by
  decide +kernel

/-- `delay_pipeline_example_closed`: the Onset of `A` written in the row at 1.0 s is delayed by 1 s.  The Inset at 1.5 s
(file row 3) therefore comes before its Onset and is reported; the Inset at 3.0 s (file row 4) is in scope — it is legal
only because of the Delay-shifted Onset of the first row. -/
theorem delay_pipeline_example_closed :
    (validateClosed env ⟨['B'], 1⟩ cfg file).toOption = some [⟨['I'], 1, some 3, none, inset, .temporal 1⟩] ∧
    (validateClosed env ⟨['B'], 1⟩ cfg [⟨some 8, [delayedOnset], []⟩, ⟨some 24, [inset], []⟩]).toOption = some [] := by
  decide +kernel

end DelayDemo

theorem shuffle_closed (env : Validate.Env) (kB : RIssue) (cfg : Cfg) (S T : List Row) (hon : cfg.hasOnset = true)
    (hm : cfg.maskByRow = true) (hS : monotone (S.map (·.onset)) = true) (hperm : T.Perm S)
    (hnd : (S.map (·.onset)).Nodup) (oS oT : List Issue) (h1 : validateClosed env kB cfg S = .ok oS)
    (h2 : validateClosed env kB cfg T = .ok oT) :
    ((oT.filter fun i => !isUnordered i).map (ident (closeCfg env kB cfg) T)).Perm (oS.map (ident (closeCfg env kB cfg) S)) ∧
    (oT.filter isUnordered).length = (if monotone (T.map (·.onset)) then 0 else 1) ∧
    oS.filter isUnordered = [] :=
  shuffle (closeCfg env kB cfg) S T hon hm hS hperm hnd oS oT h1 h2

/-! #### a concrete file through the closed pipeline (tiny schema of `Props/C01.lean`) -/

def closedCfg : Cfg :=
  { rowAdj := 2, hasOnset := false, columns := [['a'], ['b']], catCols := [], mapIssues := [], refs := [], allColumns := [],
    maskByRow := true, guardDelay := true, kKey := ⟨['K'], 10⟩, kRef := ⟨['F'], 1⟩, kUnordered := ⟨['U'], 10⟩,
    kTemporal := fun _ => ⟨['T'], 1⟩, o := demoOracle }

/-- rows `Red | Red`, `Red | (Red`, `Zz | n/a` -/
def closedFile : List Row :=
  [⟨none, [['R','e','d'], ['R','e','d']], []⟩, ⟨none, [['R','e','d'], ['(','R','e','d']], []⟩,
   ⟨none, [['Z','z'], ['n','/','a']], []⟩]

def kindOf (k : Validate.Kind) : Str := k.code ++ [':'] ++ k.name

/-- `pipeline_example_closed`: file row 2 passes the cell checks and its join `Red,Red` repeats a tag (row-level
issue, no column); row 3 has unbalanced parentheses in column `b` and therefore gets no row-level check; row 4 holds
an unknown tag in column `a`. -/
theorem pipeline_example_closed :
    (validateClosed C01.Tiny.env ⟨['B'], 1⟩ closedCfg closedFile).toOption =
    some [⟨kindOf .tagRepeated, 1, some 2, none, ['R','e','d',',','R','e','d'], .row 0⟩,
          ⟨kindOf .parentheses, 1, some 3, some ['b'], ['(','R','e','d'], .cell 1 1⟩,
          ⟨kindOf .noValidTag, 1, some 4, some ['a'], ['Z','z'], .cell 2 0⟩] := by
  decide +kernel

/-- the hypotheses of `row_equals_string_closed` hold for the first row of that file -/
example : ∀ c ∈ live closedCfg ⟨none, [['R','e','d'], ['R','e','d']], []⟩,
    Validate.hasError (Validate.basic C01.Tiny.env false c.2.2) = false := by decide +kernel

end HedVerif.C07

namespace HedVerif.C08
open HedVerif HedVerif.SidecarV HedVerif.Closed

/-- `sidecar_eval_closed`: the driver's table-driven evaluation is `validateClosed`. -/
theorem sidecar_eval_closed (env : Validate.Env) (g : Guards) (doc : Json) (texts : List Str) :
    validate g (memoSidecar (sidecarOracle env) texts) doc = validateClosed env g doc := by
  rw [memoSidecar_eq]; rfl

/-- `validate_eq_closed`: on the fixed tree the closed sidecar pipeline is the pure function `validateP` of the document
and the environment. -/
theorem validate_eq_closed (env : Validate.Env) (doc : Json) :
    validateClosed env .fixed doc = .ok (validateP (sidecarOracle env) doc) :=
  validate_eq (sidecarOracle env) doc

/-- `sidecar_total_closed`: sidecar validation with the modelled string validator returns a list of issues for every
JSON value and every environment. -/
theorem sidecar_total_closed (env : Validate.Env) (doc : Json) : ∃ issues, validateClosed env .fixed doc = .ok issues :=
  ⟨_, validate_eq_closed env doc⟩

theorem fault_top_level_closed (env : Validate.Env) (doc : Json) (h : isDict doc = false) :
    validateClosed env .fixed doc = .ok [mk .wrongType none none] := by
  rw [validate_eq_closed, fault_top_level _ doc h]

theorem fault_braces_closed (env : Validate.Env) (cols : List (Str × Json)) (n : Str) (e : Json) (k s : Str)
    (hm : (n, e) ∈ cols) (hs : (k, s) ∈ screened e) (hb : braces s ≠ []) :
    ∃ out, validateClosed env .fixed (.obj cols) = .ok out ∧ mk .malformedRef (some n) (keyCtx (screened e) k) ∈ out :=
  ⟨_, validate_eq_closed env _, fault_braces _ cols n e k s hm hs hb⟩

theorem fault_unknown_ref_closed (env : Validate.Env) (cols : List (Str × Json)) (n : Str) (e : Json) (k s r : Str)
    (hm : (n, e) ∈ cols) (hs : (k, s) ∈ screened e) (hr : r ∈ findRefs s)
    (hu : (possibleRefs (colsP cols)).contains r = false) :
    ∃ out, validateClosed env .fixed (.obj cols) = .ok out ∧ mk .invalidRef (some n) (keyCtx (screened e) k) ∈ out :=
  ⟨_, validate_eq_closed env _, fault_unknown_ref _ cols n e k s r hm hs hr hu⟩

/-- the hypothesis "no definition in the entry" is a statement about the parsed entry (`Closed.defCount`) -/
theorem fault_pound_value_closed (env : Validate.Env) (cols : List (Str × Json)) (n : Str) (kvs : List (Str × Json)) (s : Str)
    (hne : anyError (earlyP (.obj cols)) = false) (hm : (n, .obj kvs) ∈ cols) (hl : lookup HED kvs = some (.str s))
    (hc : treeHash (sidecarOracle env) s ≠ 1) (hd : Closed.defCount env s = 0) :
    ∃ out, validateClosed env .fixed (.obj cols) = .ok out ∧ mk .poundValue (some n) none ∈ out :=
  ⟨_, validate_eq_closed env _, fault_pound_value _ cols n kvs s hne hm hl hc hd⟩

theorem fault_pound_category_closed (env : Validate.Env) (cols : List (Str × Json)) (n : Str) (kvs vs : List (Str × Json))
    (k s : Str) (hne : anyError (earlyP (.obj cols)) = false) (hm : (n, .obj kvs) ∈ cols)
    (hl : lookup HED kvs = some (.obj vs)) (hkv : (k, .str s) ∈ vs) (hc : treeHash (sidecarOracle env) s ≠ 0)
    (hd : Closed.defCount env s = 0) :
    ∃ out, validateClosed env .fixed (.obj cols) = .ok out ∧
      mk .poundCategory (some n) (keyCtx (vs.filterMap strOf) k) ∈ out :=
  ⟨_, validate_eq_closed env _, fault_pound_category _ cols n kvs vs k s hne hm hl hkv hc hd⟩

/-- `string_fault_category_closed`: in a sidecar without structural or reference error, every issue the modelled string
validator finds in a category entry (placeholders allowed, `{ref}` tags removed) is reported under its published code and
severity with the column and, if the column has several entries, the key. -/
theorem string_fault_category_closed (env : Validate.Env) (cols : List (Str × Json)) (n : Str) (kvs vs : List (Str × Json))
    (k s : Str) (hne : anyError (earlyP (.obj cols)) = false) (hm : (n, .obj kvs) ∈ cols)
    (hl : lookup HED kvs = some (.obj vs)) (hkv : (k, .str s) ∈ vs)
    (vi : Validate.Issue) (hv : vi ∈ entryBasic env s) :
    ∃ out, validateClosed env .fixed (.obj cols) = .ok out ∧
      (⟨[], vi.code, vi.sev, some n, keyCtx (vs.filterMap strOf) k⟩ : Issue) ∈ out := by
  refine ⟨_, validate_eq_closed env _, ?_⟩
  apply mem_loop hne hm
  have hks : (k, s) ∈ vs.filterMap strOf := List.mem_filterMap.mpr ⟨(k, .str s), hkv, rfl⟩
  simp only [columnIssuesP, detectP, hl, stringsP, Bool.false_and, Bool.false_eq_true, ↓reduceIte, List.mem_append,
    List.mem_flatMap, List.mem_map]
  refine Or.inl ⟨_, ⟨(k, s), hks, rfl⟩, ?_⟩
  simp only [entryIssuesP, List.mem_append, List.mem_map]
  exact Or.inl (Or.inl ⟨pair vi, List.mem_map_of_mem hv, rfl⟩)

/-- `string_fault_value_closed`: the same for the template of a value column. -/
theorem string_fault_value_closed (env : Validate.Env) (cols : List (Str × Json)) (n : Str) (kvs : List (Str × Json)) (s : Str)
    (hne : anyError (earlyP (.obj cols)) = false) (hm : (n, .obj kvs) ∈ cols) (hl : lookup HED kvs = some (.str s))
    (vi : Validate.Issue) (hv : vi ∈ entryBasic env s) :
    ∃ out, validateClosed env .fixed (.obj cols) = .ok out ∧ (⟨[], vi.code, vi.sev, some n, none⟩ : Issue) ∈ out := by
  refine ⟨_, validate_eq_closed env _, ?_⟩
  apply mem_loop hne hm
  simp [columnIssuesP, detectP, hl, stringsP, entryIssuesP, keyCtx, ext]
  have hx : (vi.code, vi.sev) ∈ (sidecarOracle env).basic s := List.mem_map_of_mem (f := pair) hv
  exact Or.inl hx

/-! #### a concrete sidecar through the closed pipeline -/

/-- `{"a": {"HED": {"x": "Red,{b}", "y": "Zz"}}, "b": {"HED": "Label/#,Red"}}` -/
def closedDoc : Json :=
  .obj [(['a'], .obj [(HED, .obj [(['x'], .str ['R','e','d',',','{','b','}']), (['y'], .str ['Z','z'])])]),
        (['b'], .obj [(HED, .str ['L','a','b','e','l','/','#',',','R','e','d'])])]

/-- `sidecar_pipeline_example_closed`: entry `x` is fine by itself, but spliced with column `b` it repeats `Red`
(found by the full checks of the assembled string `Red,Label/#,Red`); entry `y` is an unknown tag. -/
theorem sidecar_pipeline_example_closed :
    (validateClosed C01.Tiny.env .fixed closedDoc).toOption =
    some [⟨[], Validate.Kind.tagRepeated.code, 1, some ['a'], some ['x']⟩,
          ⟨[], Validate.Kind.noValidTag.code, 1, some ['a'], some ['y']⟩] := by
  decide +kernel

/-! #### sidecars that declare definitions (`validateClosedD`) -/

/-- `extract_stage_closed`: the second stage (validation against the enlarged dictionary) extracts the same definitions and
extraction issues as the first: extraction reads the entries' trees and the schema, never the dictionary. -/
theorem extract_stage_closed (env : Validate.Env) (dd : Defs.DefDict) (g : Guards) (doc : Json) :
    extractDefsDoc g (sidecarOracleD (envWith env dd)) doc = extractDefsDoc g (sidecarOracleD env) doc := by
  have hd : (sidecarOracleD (envWith env dd)).defTree = (sidecarOracleD env).defTree := by
    funext s; exact toDefs_envWith env dd s
  have hf : (sidecarOracleD (envWith env dd)).fold = (sidecarOracleD env).fold := rfl
  unfold extractDefsDoc extractDefs extractColumn extractString
  simp only [hd, hf]

/-- `validate_eq_closedD`: on the fixed tree the closed sidecar pipeline with declared definitions is a pure function of
the document and the environment. -/
theorem validate_eq_closedD (env : Validate.Env) (doc : Json) :
    validateClosedD env .fixed doc =
      .ok (validateDP (sidecarOracleD (envWith env (sidecarDict env .fixed doc))) (env.defs.map (·.key)) doc) :=
  validateD_eq _ _ doc

theorem sidecar_total_closedD (env : Validate.Env) (doc : Json) : ∃ issues, validateClosedD env .fixed doc = .ok issues :=
  ⟨_, validate_eq_closedD env doc⟩

/-- `defs_extracted_closed`: the dictionary that joins the environment is, in order, the first acceptable candidate of
each name among the sidecar's definition groups (C09's `Acceptable` / `newEntry`), read off the trees `Validate` builds. -/
theorem defs_extracted_closed (env : Validate.Env) (doc : Json) :
    sidecarDict env .fixed doc =
      (firstAccepted Validate.fold [] (candidates (sidecarOracleD env) (loadP doc).2)).map fun c =>
        C09.newEntry Validate.fold c.dt c.ks := by
  unfold sidecarDict
  rw [extractDefsDoc_eq]
  exact defs_extracted_spec (sidecarOracleD env) (loadP doc).2

/-- `{"d": {"HED": {"d1": "(Definition/Mk/#, (Label/#))"}}, "a": {"HED": {"go": "Def/Mk/ab", "no": "Def/Mk", "z": "Def/Zz"}}}` -/
def closedDefDoc : Json :=
  .obj [(['d'], .obj [(HED, .obj [(['d','1'], .str ['(','D','e','f','i','n','i','t','i','o','n','/','M','k','/','#',',',' ','(','L','a','b','e','l','/','#',')',')'])])]),
        (['a'], .obj [(HED, .obj [(['g','o'], .str ['D','e','f','/','M','k','/','a','b']), (['n','o'], .str ['D','e','f','/','M','k']), (['z'], .str ['D','e','f','/','Z','z'])])])]

/-- `sidecar_defs_example_closed`: the sidecar declares `Mk/#` ↦ `(Label/#)`; `Def/Mk/ab` in another column is accepted
against it, `Def/Mk` (value missing) and `Def/Zz` (not declared) are DEF_INVALID at their column and key; the declaring
entry itself draws no issue. -/
theorem sidecar_defs_example_closed :
    (sidecarDict C01.Tiny.env .fixed closedDefDoc).map (fun e => (e.key, e.takes)) = [(['m','k'], true)] ∧
    (validateClosedD C01.Tiny.env .fixed closedDefDoc).toOption =
      some [⟨[], Validate.Kind.defValueMissing.code, 1, some ['a'], some ['n','o']⟩,
            ⟨[], Validate.Kind.defUnmatched.code, 1, some ['a'], some ['z']⟩] := by
  decide +kernel

end HedVerif.C08
