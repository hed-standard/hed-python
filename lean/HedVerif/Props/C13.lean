/-
C13 — Library schemas and namespaces compose without changing meaning.
`Group.find` (dispatch on the namespace), the attribute unions of the required/unique checks,
`parseVersionList`, `merge` of a library into a copy of its partner, `loadVersions` (several files under one
prefix), the name-keyed sections (`mergeSection`), validation against a group (`GroupValidate.validateFor`,
on the string-validator model of C01).
-/
import HedVerif.Model.Group
import HedVerif.Props.C03
import HedVerif.Model.GroupValidate

namespace HedVerif.Group
open HedVerif.Schema

theorem lookup_cons (e : Str × Member) (g : Group) (p : Str) :
    lookup (e :: g) p = if e.1 == p then some e.2 else lookup g p := by
  rw [lookup, List.find?_cons]
  cases e.1 == p <;> rfl

theorem lookup_none (g : Group) (p : Str) (h : p ∉ prefixes g) : lookup g p = none := by
  rw [lookup, List.find?_eq_none.mpr fun e he hp => h (List.mem_map.mpr ⟨e, he, beq_iff_eq.mp hp⟩)]
  rfl

theorem lookup_of_mem (g : Group) (p : Str) (m : Member) (hnd : (prefixes g).Nodup)
    (hm : (p, m) ∈ g) : lookup g p = some m := by
  induction g with
  | nil => cases hm
  | cons e rest ih =>
    rw [lookup_cons]
    rw [prefixes, List.map_cons, List.nodup_cons] at hnd
    rcases List.mem_cons.mp hm with rfl | h
    · rw [beq_self_eq_true, if_pos rfl]
    · rw [if_neg fun x : (e.1 == p) = true => hnd.1 (eq_of_beq x ▸ List.mem_map.mpr ⟨(p, m), h, rfl⟩)]
      exact ih hnd.2 h

theorem mem_dedup {α} [BEq α] [LawfulBEq α] (l : List α) (x : α) : x ∈ dedup l ↔ x ∈ l := by
  induction l with
  | nil => simp [dedup]
  | cons y ys ih =>
    simp only [dedup, List.mem_cons, List.mem_filter, ih, bne_iff_ne, ne_eq]
    by_cases h : x = y <;> simp [h]

theorem nodup_dedup {α} [BEq α] [LawfulBEq α] (l : List α) : (dedup l).Nodup := by
  induction l with
  | nil => simp [dedup]
  | cons y ys ih =>
    simp only [dedup, List.nodup_cons, List.mem_filter, bne_self_eq_false, Bool.false_eq_true,
      and_false, not_false_eq_true, true_and]
    exact List.Pairwise.filter _ ih

theorem filter_map_of_comp {α β} (f : α → β) (q : β → Bool) (q' : α → Bool) (h : ∀ x, q (f x) = q' x)
    (l : List α) : (l.map f).filter q = (l.filter q').map f := by
  rw [List.filter_map]
  exact congrArg _ (List.filter_congr fun x _ => h x)

theorem dedup_map_append (p : Str) (l : List Str) :
    dedup (l.map (p ++ ·)) = (dedup l).map (p ++ ·) := by
  induction l with
  | nil => rfl
  | cons y ys ih =>
    have hne (x : Str) : (p ++ x != p ++ y) = (x != y) := by
      rw [Bool.eq_iff_iff]
      simp
    rw [List.map_cons, dedup, dedup, ih, List.map_cons,
      filter_map_of_comp (p ++ ·) (· != p ++ y) (· != y) hne]

theorem isPrefixOf_append_left (a x y : Str) : (a ++ x).isPrefixOf (a ++ y) = x.isPrefixOf y := by
  induction a with
  | nil => rfl
  | cons c cs ih => simp [ih]

theorem foldS_append (fc : Char → Char) (a b : Str) : foldS fc (a ++ b) = foldS fc a ++ foldS fc b := by
  simp [foldS]

/-- two texts "x:…" and "y:…" whose bodies have no colon: one is a prefix of the other only if x = y -/
theorem colon_prefix_eq (x y u l : Str) (hx : ':' ∉ x) (hy : ':' ∉ y)
    (h : (x ++ ':' :: u).isPrefixOf (y ++ ':' :: l) = true) : x = y := by
  induction x generalizing y with
  | nil =>
    cases y with
    | nil => rfl
    | cons c cs =>
      simp only [List.nil_append, List.cons_append, List.isPrefixOf, Bool.and_eq_true, beq_iff_eq] at h
      exact absurd (by simp [← h.1]) hy
  | cons d ds ih =>
    cases y with
    | nil =>
      simp only [List.nil_append, List.cons_append, List.isPrefixOf, Bool.and_eq_true, beq_iff_eq] at h
      exact absurd (by simp [h.1]) hx
    | cons c cs =>
      simp only [List.cons_append, List.isPrefixOf, Bool.and_eq_true, beq_iff_eq] at h
      rw [h.1, ih cs (fun m => hx (List.mem_cons_of_mem _ m)) (fun m => hy (List.mem_cons_of_mem _ m)) h.2]

theorem flatMap_only (sel : Member → List Str) (g : Group) (p : Str) (m : Member)
    (hnd : (prefixes g).Nodup) (hm : (p, m) ∈ g) (hoth : ∀ e ∈ g, e.1 ≠ p → sel e.2 = []) :
    g.flatMap (memberNames sel) = memberNames sel (p, m) := by
  induction g with
  | nil => cases hm
  | cons e rest ih =>
    rw [prefixes, List.map_cons, List.nodup_cons] at hnd
    rw [List.flatMap_cons]
    rcases List.mem_cons.mp hm with rfl | h
    · rw [List.flatMap_eq_nil_iff.mpr fun e' he' => ?_, List.append_nil]
      rw [memberNames, hoth e' (.tail _ he') fun heq => hnd.1 (List.mem_map.mpr ⟨e', he', heq⟩)]
      rfl
    · rw [memberNames, hoth e (.head _) fun x => hnd.1 (x ▸ List.mem_map.mpr ⟨(p, m), h, rfl⟩)]
      exact ih hnd.2 h fun e' he' => hoth e' (.tail _ he')

theorem missing_map (fc : Char → Char) (p : Str) (names ls : List Str) :
    missing fc (names.map (p ++ ·)) (ls.map (p ++ ·)) = (missing fc names ls).map (p ++ ·) :=
  filter_map_of_comp _ _ _ (fun r => by simp only [List.any_map, Function.comp_def, foldS_append,
    isPrefixOf_append_left]) names

theorem countFor_map (fc : Char → Char) (p u : Str) (ls : List Str) :
    countFor fc (p ++ u) (ls.map (p ++ ·)) = countFor fc u ls := by
  rw [countFor, filter_map_of_comp _ _ (fun l => (foldS fc u).isPrefixOf (foldS fc l)) (fun l => by
    simp only [foldS_append, isPrefixOf_append_left]), List.length_map]
  rfl

theorem repeated_map (fc : Char → Char) (p : Str) (names ls : List Str) :
    repeated fc (names.map (p ++ ·)) (ls.map (p ++ ·)) = (repeated fc names ls).map (p ++ ·) :=
  filter_map_of_comp _ _ _ (fun u => by simp only [countFor_map]) names

theorem register_append (fold : Str → Str) (a b : List Name) (i0 : Nat) (tbl : Table) (dups : List Nat) :
    register fold (a ++ b) i0 tbl dups =
      register fold b (i0 + a.length) (register fold a i0 tbl dups).1 (register fold a i0 tbl dups).2.reverse := by
  induction a generalizing i0 tbl dups with
  | nil => simp [register]
  | cons n rest ih =>
    rw [List.cons_append, register, register, List.length_cons, ← Nat.add_assoc, Nat.add_right_comm]
    cases (tbl.get [fold (nameKey n)]).isSome <;> exact ih ..

theorem mem_get_isSome (t : Table) (k : Name) (i : Nat) (h : (k, i) ∈ t) : (t.get k).isSome = true := by
  rw [Table.get, Option.isSome_map, List.find?_isSome]
  exact ⟨_, h, beq_self_eq_true k⟩

theorem register_flags (fold : Str → Str) (rest : List Name) (i0 : Nat) (tbl : Table) (dups : List Nat)
    (p : Nat) (b : Name) (hp : rest[p]? = some b) (hk : (tbl.get [fold (nameKey b)]).isSome = true) :
    (i0 + p) ∈ (register fold rest i0 tbl dups).2 := by
  induction rest generalizing i0 tbl dups p with
  | nil => cases hp
  | cons n rest ih =>
    rw [register]
    cases p with
    | zero =>
      cases hp
      rw [if_pos hk]
      exact (register_mono fold rest (i0 + 1) tbl (i0 :: dups)).2 i0 List.mem_cons_self
    | succ p' =>
      rw [← Nat.add_assoc, Nat.add_right_comm]
      cases (tbl.get [fold (nameKey n)]).isSome with
      | true => exact ih (i0 + 1) tbl (i0 :: dups) p' hp hk
      | false =>
        obtain ⟨i, hg⟩ := Option.isSome_iff_exists.mp hk
        exact ih (i0 + 1) _ dups p' hp
          (mem_get_isSome _ _ i (List.mem_append_right _ (get_some_mem tbl _ i hg)))

/-- two tags with the same folded last component (not the bare `#`): the list has a duplicate -/
theorem register_clash (fold : Str → Str) (rest : List Name) (i0 : Nat) (tbl : Table) (dups : List Nat)
    (i j : Nat) (a b : Name) (hij : i < j) (ha : rest[i]? = some a) (hb : rest[j]? = some b)
    (hform : [nameKey a] ∈ forms a) (hsame : fold (nameKey a) = fold (nameKey b)) :
    (register fold rest i0 tbl dups).2 ≠ [] := by
  induction rest generalizing i0 tbl dups i j with
  | nil => cases ha
  | cons n rest ih =>
    obtain _ | j' := j
    · omega
    rw [register]
    cases i with
    | zero =>
      cases ha
      cases hk : (tbl.get [fold (nameKey a)]).isSome with
      | true =>
        -- `a` itself is recorded
        exact List.ne_nil_of_mem ((register_mono fold rest (i0 + 1) tbl (i0 :: dups)).2 i0 List.mem_cons_self)
      | false =>
        -- `a` binds its last component, so `b` is recorded when it is reached
        refine List.ne_nil_of_mem (register_flags fold rest (i0 + 1) _ dups j' b hb ?_)
        apply mem_get_isSome _ _ i0
        apply List.mem_append_left
        rw [List.mem_reverse, List.mem_map]
        exact ⟨[nameKey a], hform, by simp [foldName, hsame]⟩
    | succ i' =>
      cases (tbl.get [fold (nameKey n)]).isSome <;> exact ih (i0 + 1) _ _ i' j' (by omega) ha hb

theorem map_eq_ok {ε α β} {f : α → β} {x : Except ε α} {b : β} (h : x.map f = .ok b) :
    ∃ a, x = .ok a ∧ f a = b := by
  cases x with
  | error e => cases h
  | ok a => exact ⟨a, rfl, Except.ok.inj h⟩

theorem placeAll_cons (base : Vocab) (fc : Char → Char) (nStd : Nat) (cur : Name) (e : LibEntry)
    (rest : List LibEntry) :
    (∃ c, placeAll base fc nStd cur (e :: rest) = .error c) ∨
    ∃ cur' n, placeAll base fc nStd cur (e :: rest) = (placeAll base fc nStd cur' rest).map (n :: ·) := by
  obtain ⟨n, _ | r⟩ := e
  · by_cases hl : n.length ≤ 1
    · exact .inr ⟨[], n, if_pos hl⟩
    · exact .inr ⟨cur, cur ++ n, if_neg hl⟩
  · rw [placeAll]
    by_cases hn : (n.length != 1) = true
    · exact .inl ⟨_, if_pos hn⟩
    · rw [if_neg hn]
      cases base.table.get [foldS fc r] with
      | none => exact .inl ⟨_, rfl⟩
      | some i =>
        by_cases hi : i < nStd
        · exact .inr ⟨base.name i, base.name i ++ n, if_pos hi⟩
        · exact .inl ⟨_, if_neg hi⟩

theorem placeAll_length (base : Vocab) (fc : Char → Char) (nStd : Nat) (cur : Name) (lib : List LibEntry)
    (placed : List Name) (h : placeAll base fc nStd cur lib = .ok placed) : placed.length = lib.length := by
  induction lib generalizing cur placed with
  | nil => cases h; rfl
  | cons e rest ih =>
    obtain ⟨c, hc⟩ | ⟨cur', n, hs⟩ := placeAll_cons base fc nStd cur e rest
    · rw [hc] at h
      cases h
    · obtain ⟨l, hl, rfl⟩ := map_eq_ok (hs ▸ h)
      rw [List.length_cons, List.length_cons, ih cur' l hl]

end HedVerif.Group

namespace HedVerif.C13
open HedVerif.Schema HedVerif.Group

/-! ## dispatch -/

/-- the group constructor's test implies the hypothesis of the dispatch theorems -/
theorem wellFormed_distinct (fc : Char → Char) (g : Group) (h : wellFormed fc g = true) :
    (prefixes g).Nodup := by
  simp only [wellFormed, Bool.and_eq_true, decide_eq_true_eq] at h
  exact List.Pairwise.of_map _ (fun _ _ hne e => hne (congrArg _ e)) h.2

/-- the group of `unique_case_collision_counterexample` does not pass the test -/
example : wellFormed Char.toLower
    [(['a', ':'], ⟨Vocab.build id [], [], []⟩), (['A', ':'], ⟨Vocab.build id [], [], []⟩)] = false := by decide +kernel

/-- **Prefixed tags resolve in the prefix's schema alone**: same node, same remainder, same error. -/
theorem dispatch_prefixed (g : Group) (fc : Char → Char) (p : Str) (m : Member) (text : Str)
    (hnd : (prefixes g).Nodup) (hm : (p, m) ∈ g) (hns : namespaceOf text = p) :
    Group.find g fc text = findAlone p m fc text ∧
    Group.find g fc text = .res (Schema.find m.vocab (foldS fc) (text.drop p.length)) := by
  unfold Group.find findAlone
  simp [hns, lookup_of_mem g p m hnd hm]

/-- The same on a spelled-out text: `a:t` in the group is `t` in that schema loaded alone without a prefix. -/
theorem dispatch_prefixed_text (g : Group) (fc : Char → Char) (a t : Str) (m : Member)
    (hnd : (prefixes g).Nodup) (hm : (a ++ [':'], m) ∈ g) (ha : ':' ∉ a) (ha2 : '/' ∉ a)
    (ht : namespaceOf t = []) :
    Group.find g fc (a ++ ':' :: t) = findAlone [] m fc t ∧
    Group.find g fc (a ++ ':' :: t) = .res (Schema.find m.vocab (foldS fc) t) := by
  have hns := C03.namespace_ascii a t ha ha2
  have h := (dispatch_prefixed g fc (a ++ [':']) m (a ++ ':' :: t) hnd hm hns).2
  have hd : (a ++ ':' :: t).drop (a ++ [':']).length = t := by
    rw [List.append_cons a ':' t, List.drop_left]
  rw [hd] at h
  refine ⟨?_, h⟩
  rw [h]
  unfold findAlone
  simp [ht]

/-- **Unprefixed tags resolve in the unprefixed schema alone.** -/
theorem dispatch_unprefixed (g : Group) (fc : Char → Char) (m : Member) (text : Str)
    (hnd : (prefixes g).Nodup) (hm : ([], m) ∈ g) (hns : namespaceOf text = []) :
    Group.find g fc text = findAlone [] m fc text ∧
    Group.find g fc text = .res (Schema.find m.vocab (foldS fc) text) := by
  have := dispatch_prefixed g fc [] m text hnd hm hns
  simpa using this

/-- **A namespace that is not a member prefix is the namespace error** (whatever the rest of the text). -/
theorem bad_prefix (g : Group) (fc : Char → Char) (text : Str) (h : namespaceOf text ∉ prefixes g) :
    Group.find g fc text = .unmatched (namespaceOf text) ∧
    codeOf (Group.find g fc text) = some .tagNamespacePrefixInvalid := by
  unfold Group.find
  simp [lookup_none g _ h, codeOf]

theorem bad_prefix_nonalpha (alpha : Char → Bool) (ns : Str) (hne : ns ≠ []) (h : alphaPrefix alpha ns = false) :
    prefixIssue alpha ns = true := by
  simp [prefixIssue, List.isEmpty_eq_false_iff.mpr hne, h]

/-- **A prefix that loads is never flagged on a tag**: load side and tag side apply the same alphabetic test
(whatever `str.isalpha` says about each character — ASCII, Latin-1, Cyrillic, …). -/
theorem loaded_prefix_no_issue (alpha : Char → Bool) (q p : Str) (h : setPrefix alpha q = .ok p) :
    prefixIssue alpha p = false := by
  -- `setPrefix` answers by `prefixIssue` of the text with its colon
  unfold setPrefix at h
  generalize (if !q.isEmpty && q.getLast? != some ':' then q ++ [':'] else q) = q' at h
  have h : (if prefixIssue alpha q' = true then .error LoadErr.invalidLibraryPrefix else .ok q') =
      Except.ok p := h
  cases hi : prefixIssue alpha q' with
  | true => rw [hi] at h; cases h
  | false => rw [hi] at h; cases h; exact hi

/-- a member prefix is alphabetic: `set_schema_prefix` installs no other -/
theorem member_prefix_alpha (alpha : Char → Bool) (q p : Str) (h : setPrefix alpha q = .ok p) (hne : p ≠ []) :
    alphaPrefix alpha p = true := by
  have := loaded_prefix_no_issue alpha q p h
  rw [prefixIssue, List.isEmpty_eq_false_iff.mpr hne] at this
  simpa using this

theorem set_prefix_refuses (alpha : Char → Bool) (q : Str) (hne : q ≠ []) (hc : q.getLast? = some ':')
    (h : alphaPrefix alpha q = false) :
    setPrefix alpha q = .error .invalidLibraryPrefix := by
  simp [setPrefix, List.isEmpty_eq_false_iff.mpr hne, hc, h]

/-! ## required / unique -/

/-- **Required tags, partial version.** The group's required-tag check equals the check against `p`'s
schema alone *provided no other member has `required` tags* (the group takes the union over all
members, `required_union_counterexample`). -/
theorem prefixed_partial (g : Group) (fc : Char → Char) (p : Str) (m : Member) (longs : List Str)
    (hnd : (prefixes g).Nodup) (hm : (p, m) ∈ g) (hoth : ∀ e ∈ g, e.1 ≠ p → e.2.required = []) :
    requiredIssues g fc longs = requiredIssues [(p, m)] fc longs := by
  unfold requiredIssues tagsWithAttribute
  rw [flatMap_only (·.required) g p m hnd hm hoth]
  simp

/-- without the hypothesis on the other members it fails: the union makes another member's required tag
missing from an annotation that only speaks `b:` -/
theorem required_union_counterexample :
    ∃ (g : Group) (p : Str) (m : Member) (longs : List Str),
      (prefixes g).Nodup ∧ (p, m) ∈ g ∧ (∀ l ∈ longs, p.isPrefixOf l = true) ∧
      requiredIssues g id longs ≠ requiredIssues [(p, m)] id longs :=
  ⟨[([], ⟨Vocab.build id [], [['R']], []⟩), (['b', ':'], ⟨Vocab.build id [], [], []⟩)],
   ['b', ':'], ⟨Vocab.build id [], [], []⟩, [['b', ':', 'X']],
   by decide +kernel, List.mem_cons_of_mem _ List.mem_cons_self, by decide +kernel, by decide +kernel⟩

/-- **Prefix stripping.** A schema loaded alone under prefix `p` judges the prefixed annotation as the
same schema loaded without prefix judges the unprefixed one (issues carry the prefix). -/
theorem strip_required (fc : Char → Char) (p : Str) (m : Member) (ls : List Str) :
    requiredIssues [(p, m)] fc (ls.map (p ++ ·)) = (requiredIssues [([], m)] fc ls).map (p ++ ·) := by
  unfold requiredIssues tagsWithAttribute
  simp only [List.flatMap_cons, List.flatMap_nil, List.append_nil, memberNames, List.nil_append,
    List.map_id']
  rw [dedup_map_append, missing_map]

theorem strip_unique (fc : Char → Char) (p : Str) (m : Member) (ls : List Str) :
    uniqueIssues [(p, m)] fc (ls.map (p ++ ·)) = (uniqueIssues [([], m)] fc ls).map (p ++ ·) := by
  unfold uniqueIssues tagsWithAttribute
  simp only [List.flatMap_cons, List.flatMap_nil, List.append_nil, memberNames, List.nil_append,
    List.map_id']
  rw [dedup_map_append, repeated_map]

/-- the names of member `q` never count tags of prefix `p` -/
def Separated (fc : Char → Char) (p q : Str) (names ls : List Str) : Prop :=
  ∀ u ∈ names, ∀ l ∈ ls, (foldS fc (q ++ u)).isPrefixOf (foldS fc (p ++ l)) = false

theorem mem_uniqueIssues (g : Group) (fc : Char → Char) (longs : List Str) (x : Str) :
    x ∈ uniqueIssues g fc longs ↔
      (∃ e ∈ g, x ∈ memberNames (·.unique) e) ∧ 1 < countFor fc x longs := by
  simp only [uniqueIssues, tagsWithAttribute, repeated, List.mem_filter, mem_dedup, List.mem_flatMap,
    decide_eq_true_eq, gt_iff_lt]

/-- **Unique counts never mix across prefixes.** For an annotation speaking `p:` the group reports exactly the
unique-tag issues of `p`'s schema alone, each once, whenever the other members' prefixed names are not
text-prefixes of `p:`-tags (`separated_of_prefixes`). -/
theorem unique_per_prefix (g : Group) (fc : Char → Char) (p : Str) (m : Member) (ls : List Str)
    (hnd : (prefixes g).Nodup) (hm : (p, m) ∈ g)
    (hsep : ∀ e ∈ g, e.1 ≠ p → Separated fc p e.1 e.2.unique ls) :
    (∀ x, x ∈ uniqueIssues g fc (ls.map (p ++ ·)) ↔ x ∈ uniqueIssues [(p, m)] fc (ls.map (p ++ ·))) ∧
    (uniqueIssues g fc (ls.map (p ++ ·))).Nodup ∧ (uniqueIssues [(p, m)] fc (ls.map (p ++ ·))).Nodup := by
  refine ⟨fun x => ?_, List.Pairwise.filter _ (nodup_dedup _), List.Pairwise.filter _ (nodup_dedup _)⟩
  rw [mem_uniqueIssues, mem_uniqueIssues]
  refine and_congr_left fun hc => ⟨?_, ?_⟩
  · rintro ⟨e, he, hx⟩
    by_cases hep : e.1 = p
    · have h1 := lookup_of_mem g e.1 e.2 hnd he
      rw [hep, lookup_of_mem g p m hnd hm] at h1
      exact ⟨(p, m), List.mem_singleton_self _, by rwa [Option.some.inj h1, ← hep]⟩
    · -- a name of another member counts no tag of `p`
      exfalso
      obtain ⟨u, hu, rfl⟩ := List.mem_map.mp hx
      have h0 : countFor fc (e.1 ++ u) (ls.map (p ++ ·)) = 0 := by
        rw [countFor, List.length_eq_zero_iff, List.filter_eq_nil_iff]
        exact List.forall_mem_map.mpr fun l0 hl0 => hsep e he hep u hu l0 hl0 ▸ Bool.false_ne_true
      omega
  · rintro ⟨_, h1, hx⟩
    cases List.mem_singleton.mp h1
    exact ⟨(p, m), hm, hx⟩

theorem separated_of_prefixes (fc : Char → Char) (a b : Str) (names ls : List Str)
    (hc : fc ':' = ':') (ha : ':' ∉ foldS fc a) (hb : ':' ∉ foldS fc b) (hab : foldS fc a ≠ foldS fc b) :
    Separated fc (a ++ [':']) (b ++ [':']) names ls := by
  refine fun u _ l _ => Bool.eq_false_iff.mpr fun h => hab ?_
  have colon (x y : Str) : foldS fc (x ++ [':'] ++ y) = foldS fc x ++ ':' :: foldS fc y := by
    simp [foldS, hc]
  rw [colon, colon] at h
  exact (colon_prefix_eq _ _ _ _ hb ha h).symm

/-- With two prefixes that differ only in case (`a:` / `A:`; `Group.wellFormed` refuses such a group) the
counts DO mix: the group reports the repeated unique tag once per colliding member, the schema alone once.
So `hsep` of `unique_per_prefix` cannot be dropped. -/
theorem unique_case_collision_counterexample :
    ∃ (g : Group) (p : Str) (m : Member) (ls : List Str),
      (prefixes g).Nodup ∧ (p, m) ∈ g ∧
      (uniqueIssues g Char.toLower (ls.map (p ++ ·))).length ≠
        (uniqueIssues [(p, m)] Char.toLower (ls.map (p ++ ·))).length :=
  ⟨[(['a', ':'], ⟨Vocab.build id [], [], [['u']]⟩), (['A', ':'], ⟨Vocab.build id [], [], [['u']]⟩)],
   ['a', ':'], ⟨Vocab.build id [], [], [['u']]⟩, [['u'], ['u']],
   by decide +kernel, List.mem_cons_self, by decide +kernel⟩

/-! ## version lists -/

theorem parseSeen_error (pre post : List Str) (x : Str) (seen : List (Str × Str))
    (h : partitionColon x ∈ seen ++ pre.map partitionColon) :
    ∃ e, parseSeen (pre ++ x :: post) seen = .error e := by
  induction pre generalizing seen with
  | nil => exact ⟨_, if_pos (by simpa using h)⟩
  | cons w ws ih =>
    rw [List.cons_append, parseSeen]
    by_cases hw : partitionColon w ∈ seen
    · exact ⟨_, if_pos hw⟩
    · rw [if_neg hw]
      exact ih _ (by rw [List.append_assoc]; exact h)

/-- **The same version twice under one prefix is refused.** -/
theorem refuse_duplicate_version (pre mid post : List Str) (x y : Str)
    (h : partitionColon x = partitionColon y) :
    ∃ e, parseVersionList (pre ++ x :: mid ++ y :: post) = .error e := by
  obtain ⟨e, he⟩ := parseSeen_error (pre ++ x :: mid) post y [] (by simp [h])
  exact ⟨e, by rw [parseVersionList, he]; rfl⟩

theorem parseSeen_ok (vs : List Str) (seen : List (Str × Str))
    (hn : (seen ++ vs.map partitionColon).Nodup) :
    parseSeen vs seen = .ok (seen ++ vs.map partitionColon) := by
  induction vs generalizing seen with
  | nil => simp [parseSeen]
  | cons w ws ih =>
    simp only [parseSeen, List.map_cons]
    have hnot : partitionColon w ∉ seen := by
      intro hm
      rw [List.map_cons, List.nodup_append] at hn
      exact hn.2.2 _ hm _ List.mem_cons_self rfl
    rw [if_neg hnot]
    have := ih (seen ++ [partitionColon w]) (by simpa using hn)
    simpa using this

/-- versions without repetition are accepted, every one of them under its prefix -/
theorem accept_distinct (vs : List Str) (h : (vs.map partitionColon).Nodup) :
    parseVersionList vs = .ok (grouping (vs.map partitionColon)) := by
  unfold parseVersionList
  rw [parseSeen_ok vs [] (by simpa using h)]
  simp [Except.map]

/-! ## merge -/

theorem mergeInto_shape (fc : Char → Char) (base : List Name) (nStd : Nat) (lib : List LibEntry) (m : List Name)
    (h : mergeInto fc base nStd lib = .ok m) :
    (∃ placed, m = base ++ placed ∧ placed.length = lib.length) ∧
    (Vocab.build (foldS fc) m).dups = [] := by
  unfold mergeInto at h
  split at h
  · cases h
  · rename_i all hp
    simp only at h
    split at h
    · rename_i hd
      injection h with h
      subst h
      refine ⟨?_, by simpa using hd⟩
      obtain ⟨l, hr, hl⟩ := map_eq_ok hp
      exact ⟨l, hl.symm, placeAll_length _ _ _ _ _ _ hr⟩
    · cases h

theorem build_table_append (fold : Str → Str) (a b : List Name) :
    (∀ e ∈ (Vocab.build fold a).table, e ∈ (Vocab.build fold (a ++ b)).table) ∧
    (∀ d ∈ (Vocab.build fold a).dups, d ∈ (Vocab.build fold (a ++ b)).dups) := by
  simp only [Vocab.build]
  rw [register_append]
  have := register_mono fold b (0 + a.length) (register fold a 0 [] []).1 (register fold a 0 [] []).2.reverse
  exact ⟨this.1, fun d hd => this.2 d (by simpa using hd)⟩

/-- **Merging is conservative.** Every standard tag keeps its index and long name, followed by exactly the
library's tags; neither list has duplicates; every key the standard knows is bound to the same entry; every
form of a standard tag resolves in the merged schema as in the standard alone. -/
theorem merge_conservative (fc : Char → Char) (std : List Name) (lib : List LibEntry) (m : List Name)
    (h : merge fc std lib = .ok m) (hwf : C03.WF (Vocab.build (foldS fc) m)) :
    (∃ placed, m = std ++ placed ∧ placed.length = lib.length) ∧
    (∀ (i : Nat) (n : Name), std[i]? = some n → m[i]? = some n) ∧
    (Vocab.build (foldS fc) std).dups = [] ∧ (Vocab.build (foldS fc) m).dups = [] ∧
    (∀ k i, (Vocab.build (foldS fc) std).table.get k = some i →
        (Vocab.build (foldS fc) m).table.get k = some i) ∧
    (∀ comps i, (Vocab.build (foldS fc) std).table.get (foldName (foldS fc) comps) = some i →
        findComps (Vocab.build (foldS fc) m) (foldS fc) comps =
        findComps (Vocab.build (foldS fc) std) (foldS fc) comps) := by
  obtain ⟨⟨placed, hm, hlen⟩, hd⟩ := mergeInto_shape fc std std.length lib m h
  subst hm
  have happ := build_table_append (foldS fc) std placed
  have hkeys : ∀ k i, (Vocab.build (foldS fc) std).table.get k = some i →
      (Vocab.build (foldS fc) (std ++ placed)).table.get k = some i := fun k i hk =>
    get_of_mem _ hwf k i (happ.1 _ (get_some_mem _ k i hk))
  refine ⟨⟨placed, rfl, hlen⟩, ?_, ?_, hd, hkeys, ?_⟩
  · intro i n hi
    rw [List.getElem?_append_left (List.getElem?_eq_some_iff.mp hi).1]
    exact hi
  · exact List.eq_nil_iff_forall_not_mem.mpr fun d hd' => List.not_mem_nil (hd ▸ happ.2 d hd')
  · intro comps i hk
    unfold findComps
    simp only [hk, hkeys _ _ hk]

/-- every standard form, in any case, resolves to the same standard node after the merge -/
theorem merge_keeps_forms (fc : Char → Char) (std : List Name) (lib : List LibEntry) (m : List Name)
    (h : merge fc std lib = .ok m) (hwf : C03.WF (Vocab.build (foldS fc) m))
    (hwfs : C03.WF (Vocab.build (foldS fc) std))
    (i : Nat) (n f f' : Name) (hi : std[i]? = some n) (hf : f ∈ forms n)
    (hcase : foldName (foldS fc) f' = foldName (foldS fc) f) :
    findComps (Vocab.build (foldS fc) m) (foldS fc) f' = findComps (Vocab.build (foldS fc) std) (foldS fc) f' ∧
    (Vocab.build (foldS fc) m).table.get (foldName (foldS fc) f') = some i := by
  have mc := merge_conservative fc std lib m h hwf
  have hnd : i ∉ (Vocab.build (foldS fc) std).dups := by rw [mc.2.2.1]; simp
  have hk := C03.direct_hit (foldS fc) std i n hi hnd hwfs f hf
  rw [← hcase] at hk
  exact ⟨mc.2.2.2.2.2 f' i hk, mc.2.2.2.2.1 _ _ hk⟩

/-- a rooted library tag is placed directly under the long name of its root -/
theorem rooted_placed_under_root (base : Vocab) (fc : Char → Char) (nStd : Nat) (cur : Name) (c r : Str)
    (rest : List LibEntry) (placed : List Name) (i : Nat)
    (hr : base.table.get [foldS fc r] = some i) (hi : i < nStd)
    (h : placeAll base fc nStd cur (([c], some r) :: rest) = .ok placed) :
    placed.head? = some (base.name i ++ [c]) := by
  simp only [placeAll, List.length_cons, List.length_nil, Nat.zero_add, bne_self_eq_false,
    Bool.false_eq_true, ↓reduceIte, hr, hi] at h
  obtain ⟨l, _, rfl⟩ := map_eq_ok h
  rfl

/-- **Clashing names under one prefix are refused**: a library tag whose folded short name equals that of an
earlier tag (of the partner, of a merged library or of itself) makes `mergeInto` fail with the duplicate
error. `hform`: the earlier tag registers its last component, which only the bare `#` does not. -/
theorem refuse_clash (fc : Char → Char) (base : List Name) (nStd : Nat) (lib : List LibEntry) (all : List Name)
    (hp : place fc base nStd lib = .ok all) (i j : Nat) (a b : Name) (hij : i < j)
    (ha : all[i]? = some a) (hb : all[j]? = some b) (hform : [nameKey a] ∈ forms a)
    (hsame : foldS fc (nameKey a) = foldS fc (nameKey b)) :
    ∃ d, mergeInto fc base nStd lib = .error (.duplicate d) := by
  have hne : (Vocab.build (foldS fc) all).dups ≠ [] :=
    register_clash (foldS fc) all 0 [] [] i j a b hij ha hb hform hsame
  rw [mergeInto, hp]
  exact ⟨_, if_neg fun h => hne (List.isEmpty_iff.mp h)⟩

/-! ## several versions under one prefix -/

theorem placeAll_unrooted (base : Vocab) (fc : Char → Char) (nStd : Nat) (ns : List Name) :
    placeAll base fc nStd [] (ns.map fun n => (n, none)) = .ok ns := by
  induction ns with
  | nil => rfl
  | cons n rest ih =>
    simp only [List.map_cons, placeAll]
    split <;> simp [ih, Except.map]

/-- **A schema that is not partnered, or names another partner, is never appended** (the header guards of
`SchemaLoader.__init__`): in particular a standard schema after a library, a library after a standard schema
and two standard schemas are refused whatever their tags. -/
theorem refuse_unpartnered (fc : Char → Char) (a b : Source) (rest : List Source)
    (h : a.withStandard = [] ∨ b.withStandard ≠ a.withStandard) :
    loadVersions fc a (b :: rest) = .error .notPartnered ∨
    loadVersions fc a (b :: rest) = .error .withStandardDiffers := by
  unfold loadVersions
  rw [List.foldlM_cons]
  by_cases h1 : a.withStandard = []
  · left
    simp [appendSource, h1, bind, Except.bind]
  · right
    have h2 : (b.withStandard != a.withStandard) = true := bne_iff_ne.mpr (h.resolve_left h1)
    simp [appendSource, List.isEmpty_eq_false_iff.mpr h1, h2, bind, Except.bind]

theorem load_two_ok (fc : Char → Char) (a b : Source) (m : List Name)
    (h : loadVersions fc a [b] = .ok m) :
    a.withStandard ≠ [] ∧ b.withStandard = a.withStandard ∧
    m = a.names ++ b.libNames ∧ (Vocab.build (foldS fc) m).dups = [] := by
  unfold loadVersions at h
  simp only [List.foldlM_cons, List.foldlM_nil, bind_pure] at h
  unfold appendSource at h
  split at h
  · cases h
  · rename_i hw
    split at h
    · cases h
    · rename_i hb
      split at h
      · rename_i m' hm
        injection h with h
        subst h
        have sh := mergeInto_shape fc _ _ _ _ hm
        refine ⟨?_, by simpa using hb, ?_, sh.2⟩
        · intro hnil; simp [hnil] at hw
        · unfold mergeInto place at hm
          rw [placeAll_unrooted] at hm
          simp only [Except.map] at hm
          split at hm
          · injection hm with hm; exact hm.symm
          · cases hm
      · cases h

/-- **Clashing names under one prefix are refused (whole load)** — by a header guard or the duplicate check. -/
theorem refuse_shared_name (fc : Char → Char) (a b : Source) (i k : Nat) (x y : Name)
    (hx : a.names[i]? = some x) (hy : b.libNames[k]? = some y) (hform : [nameKey x] ∈ forms x)
    (hsame : foldS fc (nameKey x) = foldS fc (nameKey y)) :
    ∃ e, loadVersions fc a [b] = .error e := by
  cases hl : loadVersions fc a [b] with
  | error e => exact ⟨e, rfl⟩
  | ok m =>
    exfalso
    obtain ⟨_, _, hm, hd⟩ := load_two_ok fc a b m hl
    have hi : i < a.names.length := (List.getElem?_eq_some_iff.mp hx).1
    have ha : m[i]? = some x := by rw [hm, List.getElem?_append_left hi]; exact hx
    have hb : m[a.names.length + k]? = some y := by
      rw [hm, List.getElem?_append_right (Nat.le_add_right _ _), Nat.add_sub_cancel_left]
      exact hy
    exact register_clash (foldS fc) m 0 [] [] i (a.names.length + k) x y (by omega) ha hb hform hsame hd

/-- **Merge then prefix = prefix then merge.** In the model the prefix is a label of the member and no part of
its vocabulary: `a:t` resolves in a group holding the merged vocabulary under `a:` as `t` does in the same
merge loaded without a prefix. (That the implementation, which sets the prefix BEFORE merging the second
library and finalises again, agrees is what the merged-prefix streams of the harness check.) -/
theorem merge_prefix_commute (fc : Char → Char) (first : Source) (rest : List Source) (m : List Name)
    (_h : loadVersions fc first rest = .ok m) (g : Group) (a t : Str) (M : Member)
    (hM : M.vocab = Vocab.build (foldS fc) m)
    (hnd : (prefixes g).Nodup) (hm : (a ++ [':'], M) ∈ g) (ha : ':' ∉ a) (ha2 : '/' ∉ a)
    (ht : namespaceOf t = []) :
    Group.find g fc (a ++ ':' :: t) = findAlone [] M fc t ∧
    Group.find g fc (a ++ ':' :: t) = .res (Schema.find (Vocab.build (foldS fc) m) (foldS fc) t) := by
  have := dispatch_prefixed_text g fc a t M hnd hm ha ha2 ht
  rw [hM] at this
  exact ⟨by rw [this.1], this.2⟩

/-! ## the name-keyed sections -/

theorem addAll_prefix (key : SEntry → Str) (ph : Bool) (es acc : List SEntry) (d : List Str) :
    (∃ x, (addAll key ph es acc d).1 = acc ++ x) ∧ (∀ n ∈ d, n ∈ (addAll key ph es acc d).2) := by
  induction es generalizing acc d with
  | nil => exact ⟨⟨[], (List.append_nil _).symm⟩, fun n hn => hn⟩
  | cons e es ih =>
    rw [addAll]
    cases acc.any (fun x => key x == key e) with
    | true =>
      cases ph && isPlaceholder e with
      | true => exact ih acc d
      | false => exact ⟨(ih acc _).1, fun n hn => (ih acc _).2 n (List.mem_append_left _ hn)⟩
    | false =>
      obtain ⟨⟨x, hx⟩, h2⟩ := ih (acc ++ [e]) d
      exact ⟨⟨e :: x, by rw [if_neg Bool.false_ne_true, hx, List.append_assoc]; rfl⟩, h2⟩

theorem addAll_flags (key : SEntry → Str) (ph : Bool) (es acc : List SEntry) (d : List Str) (e : SEntry)
    (he : e ∈ es) (hk : acc.any (fun x => key x == key e) = true) (hnp : (ph && isPlaceholder e) = false) :
    (addAll key ph es acc d).2 ≠ [] := by
  induction es generalizing acc d with
  | nil => cases he
  | cons f es ih =>
    rw [addAll]
    rcases List.mem_cons.mp he with rfl | h
    · rw [if_pos hk, hnp, if_neg Bool.false_ne_true]
      exact List.ne_nil_of_mem ((addAll_prefix key ph es acc (d ++ [e.name])).2 e.name (by simp))
    · cases acc.any (fun x => key x == key f) with
      | true => cases ph && isPlaceholder f <;> exact ih acc _ h hk
      | false => exact ih (acc ++ [f]) d h (by rw [List.any_append, hk, Bool.true_or])

theorem addAll_mem (key : SEntry → Str) (ph : Bool) (es acc : List SEntry) (d : List Str) :
    ∀ e ∈ es, e ∈ (addAll key ph es acc d).1 ∨ (ph = true ∧ isPlaceholder e = true) ∨
      e.name ∈ (addAll key ph es acc d).2 := by
  induction es generalizing acc d with
  | nil => exact fun _ he => nomatch he
  | cons f es ih =>
    intro e he
    rw [addAll]
    rcases List.mem_cons.mp he with rfl | he
    · cases acc.any (fun x => key x == key e) with
      | true =>
        cases hp : ph && isPlaceholder e with
        | true => exact .inr (.inl (Bool.and_eq_true_iff.mp hp))
        | false => exact .inr (.inr ((addAll_prefix key ph es acc _).2 _ (List.mem_append_right _ (.head _))))
      | false =>
        obtain ⟨x, hx⟩ := (addAll_prefix key ph es (acc ++ [e]) d).1
        exact .inl (hx ▸ List.mem_append_left _ (List.mem_append_right _ (.head _)))
    · cases acc.any (fun x => key x == key f) with
      | true => cases ph && isPlaceholder f <;> exact ih _ _ e he
      | false => exact ih _ _ e he

/-- **Sections merge conservatively.** The partner's entries stay first and unchanged, every key the partner
knows is looked up to the same entry, and every entry the library offers is present with its own attributes
(a bare placeholder of an existing unit class excepted: it only carries units). -/
theorem section_conservative (key : SEntry → Str) (ph : Bool) (base lib m : List SEntry) (am : Bool)
    (h : mergeSection key ph base lib am = .ok m) :
    (∃ added, m = base ++ added) ∧
    (∀ k e, sectionGet key base k = some e → sectionGet key m k = some e) ∧
    (∀ e ∈ offered lib am, e ∈ m ∨ (ph = true ∧ isPlaceholder e = true)) := by
  by_cases hd : (addAll key ph (offered lib am) base []).2.isEmpty = true
  · cases (if_pos hd).symm.trans h
    obtain ⟨x, hx⟩ := (addAll_prefix key ph (offered lib am) base []).1
    refine ⟨⟨x, hx⟩, fun n e hn => ?_, fun e he => ?_⟩
    · rw [hx, sectionGet, List.find?_append, ← sectionGet, hn]
      rfl
    · refine (addAll_mem key ph _ _ _ e he).imp_right fun h' => h'.resolve_right fun hn => ?_
      rw [List.isEmpty_iff.mp hd] at hn
      cases hn
  · cases (if_neg hd).symm.trans h

/-- **A shared name in a section is refused** — unless it is the bare placeholder by which a library adds
units to a partner's unit class. -/
theorem section_refuse_shared (key : SEntry → Str) (ph : Bool) (base lib : List SEntry) (am : Bool) (b l : SEntry)
    (hb : b ∈ base) (hl : l ∈ offered lib am) (hsame : key b = key l) (hnp : (ph && isPlaceholder l) = false) :
    ∃ d, mergeSection key ph base lib am = .error d ∧ d ≠ [] := by
  have hk : base.any (fun x => key x == key l) = true := List.any_eq_true.mpr ⟨b, hb, beq_iff_eq.mpr hsame⟩
  have := addAll_flags key ph (offered lib am) base [] l hl hk hnp
  exact ⟨_, if_neg fun h => this (List.isEmpty_iff.mp h), this⟩

/-! ## validation against a group (on the string-validator model of C01) -/

section GroupValidate
open HedVerif.Validate HedVerif.GroupValidate

theorem member_self_ns (g : VGroup) (p : Str) (m : VMember) (h : member g p = some m) : m.env.ns = p := by
  have := List.find?_some h
  simpa using this

/-- **Per-tag dispatch = the member's own lookup**, for a tag whose namespace is `m`'s prefix or is not
loaded at all (same entry, same remainder, same issues). -/
theorem canonG_eq_view (g : VGroup) (m : VMember) (t : RTag)
    (hm : member g m.env.ns = some m) (ht : t.ns = m.env.ns ∨ member g t.ns = none) :
    canonG g t = canon (view g m) t := by
  -- `view` changes only the character-rule flag, which `canon` does not read
  have hview : canon (view g m) t = canon m.env t := rfl
  rw [hview]
  unfold canonG
  rcases ht with h | h
  · rw [h, hm]
  · have : (t.ns != m.env.ns) = true := bne_iff_ne.mpr fun e => by
      rw [e, hm] at h
      cases h
    simp [h, canon, this]

/-- **A tag with a prefix that is not loaded gets exactly TAG_NAMESPACE_PREFIX_INVALID** (one issue, an
error, on that tag). -/
theorem unloaded_prefix_invalid (g : VGroup) (t : RTag) (h : member g t.ns = none) :
    (canonG g t).2 = [tagIssue .libraryUnmatched t] ∧
    (tagIssue .libraryUnmatched t).code = Generated.CodeMap.code_TAG_NAMESPACE_PREFIX_INVALID ∧
    (tagIssue .libraryUnmatched t).isError = true ∧ (canonG g t).1.entry = none := by
  unfold canonG
  simp only [h]
  refine ⟨trivial, ?_, ?_, trivial⟩
  · show Kind.code .libraryUnmatched = _
    decide
  · show decide (Kind.sev .libraryUnmatched < Generated.CodeMap.sevWarning) = true
    decide

/-- the string validator's tag-side prefix check (C01's model) is `Group.prefixIssue` with `str.isalpha` as the
character data of the environment says -/
theorem tag_prefix_check (env : Env) (ph : Bool) (t : RTag) :
    ∃ rest, tagCharIssues env ph t =
      (if prefixIssue (Validate.isAlpha env.cd) t.ns then [tagIssue .nsPrefixInvalid t] else []) ++ rest :=
  ⟨_, rfl⟩

/-- a tag carrying a prefix that `set_schema_prefix` accepted gets no namespace-syntax issue -/
theorem loaded_prefix_tag_clean (env : Env) (ph : Bool) (t : RTag) (q : Str)
    (h : setPrefix (Validate.isAlpha env.cd) q = .ok t.ns) :
    ∀ i ∈ tagCharIssues env ph t, i.kind ≠ .nsPrefixInvalid ∨ i ∈
      invalidCharsFrom env.cd (if ph then Generated.CodeMap.tagAllowedChars ++ ['#'] else Generated.CodeMap.tagAllowedChars)
        t none 0 (orgBase t) := by
  intro i hi
  have hp := loaded_prefix_no_issue _ q t.ns h
  simp only [prefixIssue, alphaPrefix] at hp
  simp only [tagCharIssues, hp] at hi
  right
  simpa using hi

/-- mixed annotations at the lookup level: the lookup issues are the per-tag union -/
theorem lookup_issues_per_tag (g : VGroup) (ts us : List RTag) :
    (ts ++ us).flatMap (fun t => (canonG g t).2) =
      ts.flatMap (fun t => (canonG g t).2) ++ us.flatMap (fun t => (canonG g t).2) := by
  simp

theorem namesWith_prefix (env : Env) (sel : TagAttr → Bool) (n : Str) (h : n ∈ namesWith env sel) :
    ∃ r, n = env.ns ++ r := by
  simp only [namesWith, List.mem_filterMap] at h
  obtain ⟨i, _, hi⟩ := h
  split at hi
  · injection hi with hi; exact ⟨_, hi.symm⟩
  · cases hi

/-- **Group validation = validation by the member alone** (the complete issue list), provided (1) the group's
character-rule flag is the member's (`generation_counterexample`), (2) no other member has `required` tags
(`required_union_counterexample`), (3) no other member's `unique` name counts two tags of the annotation
(`countPrefix_zero_of_separated`). -/
theorem group_validate_eq_single (g : VGroup) (m : VMember) (ph : Bool) (text : Str)
    (hmod : groupModern g = m.env.modern)
    (hreq : otherNames g m.env.ns (·.required) = [])
    (hsep : ∀ n ∈ otherNames g m.env.ns (·.unique),
      countPrefix m.env (tagsList ((parse m.env text).final m.env)) n ≤ 1) :
    validateFor g m ph text = Validate.validate m.env ph text := by
  have hv : view g m = m.env := by unfold view; rw [hmod]
  unfold validateFor Validate.validate validateP
  simp only [hv]
  split
  · rfl
  · have h1 (ts : List RTag) : extraRequired g m.env ts = [] := by
      rw [extraRequired, hreq]
      rfl
    have h2 : extraUnique g m.env (tagsList ((parse m.env text).final m.env)) = [] :=
      List.flatMap_eq_nil_iff.mpr fun n hn => if_neg (Nat.not_lt.mpr (hsep n hn))
    rw [h1, h2]
    simp

theorem fold_eq_foldS (s : Str) : Validate.fold s = Group.foldS Char.toLower s := rfl

theorem countPrefix_zero_of_separated (env : Env) (tags : List RTag) (a b rest : Str)
    (ha : ':' ∉ Validate.fold a) (hb : ':' ∉ Validate.fold b) (hab : Validate.fold a ≠ Validate.fold b)
    (hres : ∀ t ∈ tags, t.entry.isSome = true ∧ t.ns = a ++ [':']) :
    countPrefix env tags (b ++ [':'] ++ rest) = 0 := by
  rw [countPrefix, List.length_eq_zero_iff, List.filter_eq_nil_iff]
  intro t ht
  obtain ⟨he, hns⟩ := hres t ht
  obtain ⟨e, hent⟩ := Option.isSome_iff_exists.mp he
  have hlong : Validate.longTag env t = a ++ [':'] ++ (env.vocab.longName e ++ t.extVal) := by
    rw [Validate.longTag, hent, hns]
    exact List.append_assoc _ _ _
  rw [hlong]
  exact Bool.not_eq_true _ ▸ separated_of_prefixes Char.toLower a b [rest] [_] rfl ha hb hab rest
    (List.mem_singleton_self _) _ (List.mem_singleton_self _)

/-- `group_validate_eq_single` with (3) discharged from the shape of the prefixes: every other member speaks
some `b:` with `fold b ≠ fold a` (what `Group.wellFormed` enforces), and the annotation's tags are all
resolved under `a:`. -/
theorem group_validate_eq_single_alpha (g : VGroup) (m : VMember) (ph : Bool) (text : Str) (a : Str)
    (hmod : groupModern g = m.env.modern)
    (hreq : otherNames g m.env.ns (·.required) = [])
    (_hp : m.env.ns = a ++ [':']) (ha : ':' ∉ Validate.fold a)
    (hoth : ∀ o ∈ g, o.env.ns ≠ m.env.ns →
      ∃ b, o.env.ns = b ++ [':'] ∧ ':' ∉ Validate.fold b ∧ Validate.fold a ≠ Validate.fold b)
    (hres : ∀ t ∈ tagsList ((parse m.env text).final m.env), t.entry.isSome = true ∧ t.ns = a ++ [':']) :
    validateFor g m ph text = Validate.validate m.env ph text := by
  apply group_validate_eq_single g m ph text hmod hreq
  intro n hn
  simp only [otherNames, List.mem_flatMap, List.mem_filter, bne_iff_ne, ne_eq] at hn
  obtain ⟨o, ⟨hog, hne⟩, hno⟩ := hn
  obtain ⟨b, hb, hbc, hab⟩ := hoth o hog hne
  obtain ⟨r, hr⟩ := namesWith_prefix o.env _ n hno
  rw [hr, hb, countPrefix_zero_of_separated m.env _ a b r ha hbc hab hres]
  omega

/-- the character rules are one flag for the whole string: a group of an 8.3.0 standard schema and a library
partnered with 8.2.0 uses the 8.3.0 rules also for the library's tags — `é` is accepted in the group and
refused by the library alone (finding C13-mixed-generation-char-rules) -/
theorem generation_counterexample :
    ∃ (g : VGroup) (m : VMember), member g m.env.ns = some m ∧ aloneModern m = m.env.modern ∧
      groupModern g ≠ m.env.modern ∧
      charIssues (view g m) false ['s', ':', 'L', '/', 'é'] = [] ∧
      charIssues m.env false ['s', ':', 'L', '/', 'é'] ≠ [] :=
  ⟨[⟨{ vocab := Vocab.build id [], ns := [], attrs := #[], mods := [], unitClasses := #[], modern := true, cd := {} },
      none, some true, true⟩,
    ⟨{ vocab := Vocab.build id [], ns := ['s', ':'], attrs := #[], mods := [], unitClasses := #[], modern := false, cd := {} },
      some false, none, false⟩],
   ⟨{ vocab := Vocab.build id [], ns := ['s', ':'], attrs := #[], mods := [], unitClasses := #[], modern := false, cd := {} },
      some false, none, false⟩,
   rfl, by decide +kernel, by decide +kernel, by decide +kernel, by decide +kernel⟩

end GroupValidate

/-! ## examples -/

/-- a two-member group; prefixed and unprefixed lookups; unknown prefix -/
example :
    let std : Member := ⟨Vocab.build id [[['E']], [['E'], ['S']]], [], []⟩
    let lib : Member := ⟨Vocab.build id [[['L']]], [], []⟩
    let g : Group := [([], std), (['s', ':'], lib)]
    Group.find g id ['s', ':', 'L'] = .res (.found 0 []) ∧
    Group.find g id ['S'] = .res (.found 1 []) ∧
    Group.find g id ['s', ':', 'S'] = .res (.noValidTag 1) ∧
    Group.find g id ['z', ':', 'S'] = .unmatched ['z', ':'] ∧
    prefixIssue Char.isAlpha ['s', '1', ':'] = true ∧ prefixIssue Char.isAlpha ['s', ':'] = false ∧
    prefixIssue Char.isAlpha [':'] = true := by
  decide +kernel

/-- merge: a rooted library tag goes under its root, an unrooted one to the top level; a clash is refused -/
example :
    (merge id [[['E']], [['E'], ['S']]] [([['L']], some ['S']), ([['L'], ['M']], none), ([['T']], none)]).toOption
      = some [[['E']], [['E'], ['S']], [['E'], ['S'], ['L']], [['E'], ['S'], ['L'], ['M']], [['T']]] ∧
    (merge id [[['E']], [['E'], ['S']]] [([['S']], none)]).toOption = none ∧
    (merge id [[['E']]] [([['L']], some ['X'])]).toOption = none := by
  decide +kernel

/-- loading under one prefix: same-partner libraries merge, anything else is refused -/
example :
    let std : Source := ⟨[], [([['E']], false)]⟩
    let l1 : Source := ⟨['8'], [([['E']], false), ([['E'], ['A']], true)]⟩
    let l2 : Source := ⟨['8'], [([['E']], false), ([['B']], true)]⟩
    let l3 : Source := ⟨['8'], [([['E']], false), ([['E'], ['a']], true)]⟩
    (loadVersions Char.toLower l1 [l2]).toOption = some [[['E']], [['E'], ['A']], [['B']]] ∧
    (match loadVersions Char.toLower l1 [std] with | .error .withStandardDiffers => true | _ => false) = true ∧
    (match loadVersions Char.toLower std [l1] with | .error .notPartnered => true | _ => false) = true ∧
    (loadVersions Char.toLower l1 [l3]).toOption = none := by
  decide +kernel

/-- version lists -/
example :
    (parseVersionList [['8'], ['s', ':', 'a'], ['b'], ['s', ':', 'c']]).toOption
      = some [([], ['8', ',', 'b']), (['s'], ['s', ':', 'a', ',', 'c'])] ∧
    (parseVersionList [['s', ':', 'a'], ['b'], ['s', ':', 'a']]).toOption = none := by
  decide +kernel

end HedVerif.C13
