/-
C01 — the verdict of string validation agrees with the HED rules.  About `Validate.validate` (the pipeline with its
three short-circuits), for all schemas, definition dictionaries, placeholder modes and texts: the code table; one
`injected_k` per violation kind (defect present, earlier phases silent ⇒ the specification's code is reported); the
index pairs of reported issues lie in their tags; `no_error_iff_clean`.  Not covered: several schemas at once, and
what the comment of `Clean` lists.
-/
import HedVerif.Model.Validate
import HedVerif.Props.C03

namespace HedVerif.C01
open HedVerif HedVerif.Schema HedVerif.Validate
open HedVerif.Generated.CodeMap

/-- rule violations named by the property statement -/
inductive Rule where
  | unknownTag | forbiddenExtension | missingRequiredChild | badUnit | badValue | repeatedTag | repeatedGroup
  | misplacedTagGroup | misplacedTopLevel | unbalanced | emptyDelimiter | emptyGroup | forbiddenCharacter
  | strayPlaceholder | undeclaredDef | wrongDefValue | alteredDefExpand | duplicatedUnique
deriving DecidableEq, Repr

/-- HED-specification error code of each rule (hand-written from the property statement) -/
def Spec.codeOf : Rule → Str
  | .unknownTag => ['T','A','G','_','I','N','V','A','L','I','D']
  | .forbiddenExtension => ['T','A','G','_','E','X','T','E','N','S','I','O','N','_','I','N','V','A','L','I','D']
  | .missingRequiredChild => ['T','A','G','_','R','E','Q','U','I','R','E','S','_','C','H','I','L','D']
  | .badUnit => ['U','N','I','T','S','_','I','N','V','A','L','I','D']
  | .badValue => ['V','A','L','U','E','_','I','N','V','A','L','I','D']
  | .repeatedTag => ['T','A','G','_','E','X','P','R','E','S','S','I','O','N','_','R','E','P','E','A','T','E','D']
  | .repeatedGroup => ['T','A','G','_','E','X','P','R','E','S','S','I','O','N','_','R','E','P','E','A','T','E','D']
  | .misplacedTagGroup => ['T','A','G','_','G','R','O','U','P','_','E','R','R','O','R']
  | .misplacedTopLevel => ['T','A','G','_','G','R','O','U','P','_','E','R','R','O','R']
  | .unbalanced => ['P','A','R','E','N','T','H','E','S','E','S','_','M','I','S','M','A','T','C','H']
  | .emptyDelimiter => ['T','A','G','_','E','M','P','T','Y']
  | .emptyGroup => ['T','A','G','_','E','M','P','T','Y']
  | .forbiddenCharacter => ['C','H','A','R','A','C','T','E','R','_','I','N','V','A','L','I','D']
  | .strayPlaceholder => ['P','L','A','C','E','H','O','L','D','E','R','_','I','N','V','A','L','I','D']
  | .undeclaredDef => ['D','E','F','_','I','N','V','A','L','I','D']
  | .wrongDefValue => ['D','E','F','_','I','N','V','A','L','I','D']
  | .alteredDefExpand => ['D','E','F','_','E','X','P','A','N','D','_','I','N','V','A','L','I','D']
  | .duplicatedUnique => ['T','A','G','_','N','O','T','_','U','N','I','Q','U','E']

/-- what the source publishes for the internal kinds that implement each rule: (published code, severity) -/
def Rule.published : Rule → List (Str × Nat)
  | .unknownTag => [(code_NO_VALID_TAG_FOUND, sev_NO_VALID_TAG_FOUND)]
  | .forbiddenExtension => [(code_TAG_EXTENSION_INVALID, sev_TAG_EXTENSION_INVALID),
                            (code_INVALID_PARENT_NODE, sev_INVALID_PARENT_NODE)]
  | .missingRequiredChild => [(code_TAG_REQUIRES_CHILD, sev_TAG_REQUIRES_CHILD)]
  | .badUnit => [(code_UNITS_INVALID, sev_UNITS_INVALID)]
  | .badValue => [(code_INVALID_VALUE_CLASS_VALUE, sev_INVALID_VALUE_CLASS_VALUE), (code_VALUE_INVALID, sev_VALUE_INVALID)]
  | .repeatedTag => [(code_HED_TAG_REPEATED, sev_HED_TAG_REPEATED)]
  | .repeatedGroup => [(code_HED_TAG_REPEATED_GROUP, sev_HED_TAG_REPEATED_GROUP)]
  | .misplacedTagGroup => [(code_HED_TAG_GROUP_TAG, sev_HED_TAG_GROUP_TAG)]
  | .misplacedTopLevel => [(code_HED_TOP_LEVEL_TAG, sev_HED_TOP_LEVEL_TAG), (code_HED_MULTIPLE_TOP_TAGS, sev_HED_MULTIPLE_TOP_TAGS)]
  | .unbalanced => [(code_PARENTHESES_MISMATCH, sev_PARENTHESES_MISMATCH)]
  | .emptyDelimiter => [(code_TAG_EMPTY, sev_TAG_EMPTY)]
  | .emptyGroup => [(code_HED_GROUP_EMPTY, sev_HED_GROUP_EMPTY)]
  | .forbiddenCharacter => [(code_CHARACTER_INVALID, sev_CHARACTER_INVALID), (code_INVALID_TAG_CHARACTER, sev_INVALID_TAG_CHARACTER),
                            (code_INVALID_VALUE_CLASS_CHARACTER, sev_INVALID_VALUE_CLASS_CHARACTER)]
  | .strayPlaceholder => [(val_PLACEHOLDER_INVALID, sev_INVALID_TAG_CHARACTER), (val_PLACEHOLDER_INVALID, sev_TAG_EXTENSION_INVALID)]
  | .undeclaredDef => [(code_HED_DEF_UNMATCHED, sev_HED_DEF_UNMATCHED)]
  | .wrongDefValue => [(code_HED_DEF_VALUE_MISSING, sev_HED_DEF_VALUE_MISSING), (code_HED_DEF_VALUE_EXTRA, sev_HED_DEF_VALUE_EXTRA)]
  | .alteredDefExpand => [(code_HED_DEF_EXPAND_INVALID, sev_HED_DEF_EXPAND_INVALID),
                          (code_HED_DEF_EXPAND_UNMATCHED, sev_HED_DEF_EXPAND_UNMATCHED),
                          (code_HED_DEF_EXPAND_VALUE_MISSING, sev_HED_DEF_EXPAND_VALUE_MISSING),
                          (code_HED_DEF_EXPAND_VALUE_EXTRA, sev_HED_DEF_EXPAND_VALUE_EXTRA)]
  | .duplicatedUnique => [(code_TAG_NOT_UNIQUE, sev_TAG_NOT_UNIQUE)]

/-- `error_messages.py` publishes every internal kind that implements a rule under the rule's code, with error
severity. -/
theorem codeMap_agrees_with_spec (r : Rule) :
    (r.published.all fun e => e.1 == Spec.codeOf r && decide (e.2 < sevWarning)) = true := by
  cases r <;> decide

/-- the kinds for which the model fills `sub` (index_in_tag, index_in_tag_end) are exactly the `has_sub_tag` ones
(PARENTHESES_MISMATCH carries its two counts there) -/
def modelUsesSub : Kind → Bool
  | .nodeNameEmpty | .invalidTagCharacter | .noValidTag | .invalidParent | .tagExtended
  | .valueClassValue | .valueClassChar | .curlyBrace => true
  | _ => false

theorem sub_consistent (k : Kind) : k.hasSub = modelUsesSub k := by
  cases k <;> decide

theorem hasError_append (a b : List Issue) : hasError (a ++ b) = (hasError a || hasError b) := by
  simp [hasError]

theorem hasError_eq_false_iff {l : List Issue} : hasError l = false ↔ errors l = [] := by
  simp only [hasError, errors, List.any_eq_false, List.filter_eq_nil_iff]

theorem errors_nil_of_hasError_false {l : List Issue} (h : hasError l = false) : errors l = [] :=
  hasError_eq_false_iff.1 h

theorem forall_mem_ite {α} {P : α → Prop} {c : Prop} [Decidable c] {a b : List α}
    (ha : c → ∀ x ∈ a, P x) (hb : ¬c → ∀ x ∈ b, P x) : ∀ x ∈ (if c then a else b), P x :=
  iteInduction (motive := fun l => ∀ x ∈ l, P x) ha hb

theorem forall_mem_ite_nil {α} {P : α → Prop} {c : Prop} [Decidable c] {b : List α} (hb : ¬c → ∀ x ∈ b, P x) :
    ∀ x ∈ (if c then [] else b), P x :=
  forall_mem_ite (fun _ => List.forall_mem_nil _) hb

theorem forall_mem_ite_singleton {α} {P : α → Prop} {c : Prop} [Decidable c] {a : α} (h : c → P a) :
    ∀ x ∈ (if c then [a] else []), P x :=
  forall_mem_ite (fun hc => List.forall_mem_singleton.2 (h hc)) fun _ => List.forall_mem_nil _

theorem conclude {l : List Issue} {i : Issue} {c : Str} (hi : i ∈ l) (hs : i.sev = 1) (hc : i.code = c) :
    c ∈ codes (errors l) := by
  have he : i.isError = true := by
    rw [Issue.isError, hs]
    decide
  exact List.mem_map.2 ⟨i, List.mem_filter.2 ⟨hi, he⟩, hc⟩

/-- the four phases of `validate` on a text -/
abbrev S (env : Env) (ph : Bool) (text : Str) : List Issue := stringIssues env ph text (parse env text)
abbrev T (env : Env) (ph : Bool) (text : Str) : List Issue := tagIssues env ph (parse env text)
abbrev M (env : Env) (ph : Bool) (text : Str) : List Issue := semIssues env ph text.length (parse env text)
abbrev F (env : Env) (text : Str) : List Issue := fullIssues env text.length (parse env text)
abbrev NA (env : Env) (text : Str) : Bool := isNA env (parse env text).root0

/-- `validate` = string checks; stop on error; ("n/a": straight to the full checks); tag characters and lookup;
stop on error; individual tags and Def tags; stop on error; full-string checks. -/
theorem phase_structure (env : Env) (ph : Bool) (text : Str) :
    validate env ph text =
      if hasError (S env ph text) then S env ph text
      else if NA env text then S env ph text ++ F env text
      else if hasError (S env ph text ++ T env ph text) then S env ph text ++ T env ph text
      else if hasError (S env ph text ++ T env ph text ++ M env ph text) then
        S env ph text ++ T env ph text ++ M env ph text
      else S env ph text ++ T env ph text ++ M env ph text ++ F env text := by
  simp only [validate, validateP, basicP, S, T, M, F, NA]
  cases h1 : hasError (stringIssues env ph text (parse env text))
  case true => simp [h1]
  cases isNA env (parse env text).root0
  case true => simp [h1]
  cases h3 : hasError (stringIssues env ph text (parse env text) ++ tagIssues env ph (parse env text)) <;>
    simp [h3]

/-- An issue of a phase is reported iff every earlier phase has no error; "n/a" goes from the string checks to the
full checks directly. -/
theorem reported_iff_earlier_phases_silent (env : Env) (ph : Bool) (text : Str) (i : Issue) :
    i ∈ validate env ph text ↔
      i ∈ S env ph text
      ∨ (hasError (S env ph text) = false ∧ NA env text = false ∧ i ∈ T env ph text)
      ∨ (hasError (S env ph text) = false ∧ NA env text = false ∧
          hasError (S env ph text ++ T env ph text) = false ∧ i ∈ M env ph text)
      ∨ (hasError (S env ph text) = false ∧
          (NA env text = true ∨ (hasError (S env ph text ++ T env ph text) = false ∧
            hasError (S env ph text ++ T env ph text ++ M env ph text) = false)) ∧ i ∈ F env text) := by
  rw [phase_structure]
  simp only [List.append_assoc]
  cases h1 : hasError (S env ph text)
  case true => simp
  cases h2 : NA env text
  case true => simp
  cases h3 : hasError (S env ph text ++ T env ph text)
  case true => simp
  cases h4 : hasError (S env ph text ++ (T env ph text ++ M env ph text)) <;> simp

theorem reach_string {env : Env} {ph : Bool} {text : Str} {i : Issue} (h : i ∈ S env ph text) :
    i ∈ validate env ph text :=
  (reported_iff_earlier_phases_silent env ph text i).2 (Or.inl h)

theorem reach_tag {env : Env} {ph : Bool} {text : Str} {i : Issue} (hS : hasError (S env ph text) = false)
    (hNA : NA env text = false) (h : i ∈ T env ph text) : i ∈ validate env ph text :=
  (reported_iff_earlier_phases_silent env ph text i).2 (Or.inr (Or.inl ⟨hS, hNA, h⟩))

theorem reach_sem {env : Env} {ph : Bool} {text : Str} {i : Issue} (hS : hasError (S env ph text) = false)
    (hNA : NA env text = false) (hT : hasError (S env ph text ++ T env ph text) = false)
    (h : i ∈ M env ph text) : i ∈ validate env ph text :=
  (reported_iff_earlier_phases_silent env ph text i).2 (Or.inr (Or.inr (Or.inl ⟨hS, hNA, hT, h⟩)))

theorem reach_full {env : Env} {ph : Bool} {text : Str} {i : Issue} (hB : hasError (basic env ph text) = false)
    (h : i ∈ F env text) : i ∈ validate env ph text := by
  simp only [validate, validateP]
  simp only [basic] at hB
  simp [hB, h]

theorem charIssuesFrom_mem {env : Env} {ph : Bool} {c : Char} {s : Str} (n : Nat) (h : c ∈ s)
    (hb : badChar env ph c = true) : ∃ k, charIssue k c ∈ charIssuesFrom env ph n s := by
  fun_induction charIssuesFrom env ph n s with
  | case1 => cases h
  | case2 n d ds ih =>
    rcases List.mem_cons.1 h with rfl | h
    · exact ⟨n, List.mem_append_left _ (by simp [hb])⟩
    · obtain ⟨k, hk⟩ := ih h
      exact ⟨k, List.mem_append_right _ hk⟩

theorem placeholderFrom_mem (t : RTag) (start : Nat) {s : Str} (n : Nat) (h : '#' ∈ s) :
    ∃ k, ({ subIssue .invalidTagCharacter t (start + k) (start + k + 1) with
        code := val_PLACEHOLDER_INVALID } : Issue) ∈ placeholderFrom t start n s := by
  fun_induction placeholderFrom t start n s with
  | case1 => cases h
  | case2 n d ds ih =>
    rcases List.mem_cons.1 h with rfl | h
    · exact ⟨n, List.mem_append_left _ (by simp)⟩
    · obtain ⟨k, hk⟩ := ih h
      exact ⟨k, List.mem_append_right _ hk⟩

mutual
theorem recanonNode_tags (env : Env) : ∀ (n : RNode),
    tagsNode (recanonNode env n).1 = (tagsNode n).map (fun t => (canon env t).1)
  | .tag t => by simp [recanonNode, tagsNode]
  | .group s kids => by simp [recanonNode, tagsNode, recanonList_tags env kids]
theorem recanonList_tags (env : Env) : ∀ (l : List RNode),
    tagsList (recanonList env l).1 = (tagsList l).map (fun t => (canon env t).1)
  | [] => by simp [recanonList, tagsList]
  | n :: ns => by simp [recanonList, tagsList, recanonNode_tags env n, recanonList_tags env ns]
end

mutual
theorem recanonNode_issues (env : Env) : ∀ (n : RNode),
    (recanonNode env n).2 = (tagsNode n).flatMap (fun t => (canon env t).2)
  | .tag t => by simp [recanonNode, tagsNode]
  | .group s kids => by simp [recanonNode, tagsNode, recanonList_issues env kids]
theorem recanonList_issues (env : Env) : ∀ (l : List RNode),
    (recanonList env l).2 = (tagsList l).flatMap (fun t => (canon env t).2)
  | [] => by simp [recanonList, tagsList]
  | n :: ns => by simp [recanonList, tagsList, recanonNode_issues env n, recanonList_issues env ns]
end

theorem defIssuesOf_cons (env : Env) (n : RNode) (ns : List RNode) :
    defIssuesOf env (n :: ns) = defIssuesOf env [n] ++ defIssuesOf env ns := by
  cases n <;> simp [defIssuesOf]

theorem defIssuesOf_mem_of_node {env : Env} {n : RNode} {i : Issue} (hi : i ∈ defIssuesOf env [n]) {l : List RNode}
    (hm : n ∈ l) : i ∈ defIssuesOf env l := by
  induction l with
  | nil => cases hm
  | cons m ms ih =>
    rw [defIssuesOf_cons]
    rcases List.mem_cons.1 hm with rfl | hm
    · exact List.mem_append_left _ hi
    · exact List.mem_append_right _ (ih hm)

theorem defIssuesOf_mem (env : Env) (t : RTag) (h : shortBase env t = defKey) (i : Issue)
    (hi : i ∈ defContentIssues env t none) :
    ∀ (l : List RNode), RNode.tag t ∈ l → i ∈ defIssuesOf env l := fun _ =>
  defIssuesOf_mem_of_node (by simpa [defIssuesOf, h] using hi)

theorem defIssuesOf_mem_expand (env : Env) (t : RTag) (s : Nat × Nat) (kids : List RNode)
    (ht : t ∈ directTags kids) (h : shortBase env t = defExpandKey) (i : Issue)
    (hi : i ∈ defContentIssues env t (some kids)) :
    ∀ (l : List RNode), RNode.group s kids ∈ l → i ∈ defIssuesOf env l := fun _ =>
  defIssuesOf_mem_of_node (by
    simp only [defIssuesOf, List.append_nil, List.mem_flatMap, List.mem_filter]
    exact ⟨t, ⟨ht, by simp [h]⟩, hi⟩)

/-! #### an issue of a rule is an issue of its phase -/

theorem mem_T_of_lookup {env : Env} {ph : Bool} {text : Str} {t : RTag} {i : Issue}
    (ht : t ∈ tagsList (parse env text).root0) (hi : i ∈ (canon env t).2) : i ∈ T env ph text := by
  refine List.mem_append_right _ ?_
  rw [parse, recanonList_issues]
  exact List.mem_flatMap.2 ⟨t, ht, hi⟩

theorem mem_M_of_tag {env : Env} {ph : Bool} {text : Str} {g : GV} {t : RTag} {i : Issue}
    (hg : g ∈ allGroups text.length (parse env text).root1) (ht : t ∈ directTags g.kids)
    (hi : i ∈ tagSemIssues env ph (isDefGroup env (parse env text).root1 g) t) : i ∈ M env ph text :=
  List.mem_append_left _ (List.mem_flatMap.2 ⟨g, hg, List.mem_flatMap.2 ⟨t, ht, hi⟩⟩)

theorem mem_M_of_def {env : Env} {ph : Bool} {text : Str} {g : GV} {i : Issue}
    (hg : g ∈ allGroups text.length (parse env text).root1) (hi : i ∈ defIssuesOf env g.kids) : i ∈ M env ph text :=
  List.mem_append_right _ (List.mem_flatMap.2 ⟨g, hg, hi⟩)

theorem mem_F_of_group {env : Env} {text : Str} {g : GV} {i : Issue}
    (hg : g ∈ allGroups text.length ((parse env text).final env)) (hi : i ∈ groupIssues env g) : i ∈ F env text := by
  simp only [F, fullIssues, fullPhase, List.mem_append, List.mem_flatMap]
  exact Or.inl (Or.inl (Or.inl (Or.inr ⟨g, hg, hi⟩)))

theorem mem_sem_of_individual {env : Env} {ph isDef : Bool} {t : RTag} {i : Issue}
    (h : i ∈ individualIssues env ph isDef t) : i ∈ tagSemIssues env ph isDef t :=
  List.mem_append_left _ (List.mem_append_right _ h)

/-- a tag that is not Def / Def-expand / Definition and (with placeholders allowed) has no `#` has its value
checked by `validate_units` -/
theorem mem_sem_of_units {env : Env} {ph isDef : Bool} {t : RTag} {i : Issue}
    (h1 : (shortBase env t == defKey) = false) (h2 : (shortBase env t == defExpandKey) = false)
    (h3 : (shortBase env t == definitionKey) = false) (h4 : (ph && (extension t).contains '#') = false)
    (h : i ∈ validateUnits env t (extension t)) : i ∈ tagSemIssues env ph isDef t := by
  simp only [tagSemIssues, List.mem_append]
  refine Or.inr ?_
  rwa [if_neg (by simp [h1, h2]), if_neg (by simp [h3]), if_pos (by simp only [h4, Bool.not_false])]

/-- forbidden character: some character of the text is `[]{}~`-forbidden (`[]~` with placeholders) or fails the
schema generation's character test; reported whatever else is wrong. -/
theorem injected_forbidden_character (env : Env) (ph : Bool) (text : Str) (c : Char)
    (hc : c ∈ text) (hbad : badChar env ph c = true) (hne : (c == '~') = false) :
    Spec.codeOf .forbiddenCharacter ∈ codes (errors (validate env ph text)) := by
  obtain ⟨k, hk⟩ := charIssuesFrom_mem 0 hc hbad
  have hS : charIssue k c ∈ S env ph text := by
    simp only [S, stringIssues, stringPhase, charIssues, List.mem_append]
    exact Or.inl (Or.inl (Or.inl hk))
  have he : charIssue k c = { Issue.plain .characterInvalid with chr := some k } := by simp [charIssue, hne]
  rw [he] at hS
  exact conclude (reach_string hS) rfl rfl

/-- unbalanced parentheses: the counts differ or a closing one comes first -/
theorem injected_unbalanced (env : Env) (ph : Bool) (text : Str) (h : Paren.mismatch text = true) :
    Spec.codeOf .unbalanced ∈ codes (errors (validate env ph text)) := by
  have hS : ({ Issue.plain .parentheses with sub := some (text.count '(', text.count ')') } : Issue) ∈ S env ph text := by
    simp only [S, stringIssues, stringPhase, parenIssues, h, List.mem_append]
    exact Or.inl (Or.inl (Or.inr (by simp)))
  exact conclude (reach_string hS) rfl rfl

/-- empty tag between delimiters: the delimiter scan meets an empty tag at position `n` -/
theorem injected_empty_delimiter (env : Env) (ph : Bool) (text : Str) (n : Nat)
    (h : emptyAt n ∈ delimIssues env.cd text) :
    Spec.codeOf .emptyDelimiter ∈ codes (errors (validate env ph text)) := by
  have hS : emptyAt n ∈ S env ph text := by
    simp only [S, stringIssues, stringPhase, List.mem_append]
    exact Or.inl (Or.inr h)
  exact conclude (reach_string hS) rfl rfl

/-- empty group: some group of the parsed tree has no children; basic checks silent -/
theorem injected_empty_group (env : Env) (ph : Bool) (text : Str) (g : GV)
    (hB : hasError (basic env ph text) = false)
    (hg : g ∈ allGroups text.length ((parse env text).final env)) (hk : g.kids = []) (hgr : g.isGroup = true) :
    Spec.codeOf .emptyGroup ∈ codes (errors (validate env ph text)) := by
  have hi : ({ Issue.plain .groupEmpty with span := some g.span } : Issue) ∈ groupIssues env g := by
    simp [groupIssues, hk, hgr]
  exact conclude (reach_full hB (mem_F_of_group hg hi)) rfl rfl

/-- unknown tag: some tag resolves to "no valid tag"; string checks silent, not "n/a" -/
theorem injected_unknown_tag (env : Env) (ph : Bool) (text : Str) (t : RTag) (stop : Nat)
    (hS : hasError (S env ph text) = false) (hNA : NA env text = false)
    (ht : t ∈ tagsList (parse env text).root0) (hns : (t.ns != env.ns) = false)
    (hf : find env.vocab fold ((strOf env t).drop t.ns.length) = .noValidTag stop) :
    Spec.codeOf .unknownTag ∈ codes (errors (validate env ph text)) := by
  have hc : subIssue .noValidTag t t.ns.length (t.ns.length + stop) ∈ (canon env t).2 := by
    simp [canon, hns, hf]
  exact conclude (reach_tag hS hNA (mem_T_of_lookup ht hc)) rfl rfl

/-- forbidden extension (a term of the extension is itself a schema tag) -/
theorem injected_forbidden_extension_term (env : Env) (ph : Bool) (text : Str) (t : RTag) (a b x : Nat)
    (hS : hasError (S env ph text) = false) (hNA : NA env text = false)
    (ht : t ∈ tagsList (parse env text).root0) (hns : (t.ns != env.ns) = false)
    (hf : find env.vocab fold ((strOf env t).drop t.ns.length) = .invalidParent a b x) :
    Spec.codeOf .forbiddenExtension ∈ codes (errors (validate env ph text)) := by
  have hc : subIssue .invalidParent t (t.ns.length + a) (t.ns.length + b) ∈ (canon env t).2 := by
    simp [canon, hns, hf]
  exact conclude (reach_tag hS hNA (mem_T_of_lookup ht hc)) rfl rfl

/-- forbidden extension: a resolved tag carries an extension, does not take a value and does not allow extension -/
theorem injected_forbidden_extension (env : Env) (ph : Bool) (text : Str) (g : GV) (t : RTag) (e : Nat)
    (hS : hasError (S env ph text) = false) (hNA : NA env text = false)
    (hT : hasError (S env ph text ++ T env ph text) = false)
    (hg : g ∈ allGroups text.length (parse env text).root1) (ht : t ∈ directTags g.kids)
    (he : t.entry = some e) (hx : (extension t).isEmpty = false) (hph : (extension t).contains '#' = false)
    (htv : (env.attr e).takesValue = false) (hea : (env.attr e).extensionAllowed = false) :
    Spec.codeOf .forbiddenExtension ∈ codes (errors (validate env ph text)) := by
  refine conclude (i := tagIssue .extensionInvalid t)
    (reach_sem hS hNA hT (mem_M_of_tag hg ht (mem_sem_of_individual ?_))) rfl rfl
  simp only [individualIssues, List.mem_append]
  refine Or.inl (Or.inl (Or.inl (Or.inl ?_)))
  have hph' : ¬ '#' ∈ extension t := by simpa using hph
  simp [existsIssues, entryAttr, he, hx, htv, hea, tagIssue, Issue.plain, hph']

/-- missing required child: a tag resolves to an entry with `requireChild` -/
theorem injected_missing_required_child (env : Env) (ph : Bool) (text : Str) (g : GV) (t : RTag) (e : Nat)
    (hS : hasError (S env ph text) = false) (hNA : NA env text = false)
    (hT : hasError (S env ph text ++ T env ph text) = false)
    (hg : g ∈ allGroups text.length (parse env text).root1) (ht : t ∈ directTags g.kids)
    (he : t.entry = some e) (hrc : (env.attr e).requireChild = true) :
    Spec.codeOf .missingRequiredChild ∈ codes (errors (validate env ph text)) := by
  refine conclude (i := tagIssue .requiresChild t)
    (reach_sem hS hNA hT (mem_M_of_tag hg ht (mem_sem_of_individual ?_))) rfl rfl
  simp only [individualIssues, List.mem_append]
  refine Or.inl (Or.inl (Or.inr ?_))
  simp [entryAttr, he, hrc]

/-- stray placeholder: placeholders not allowed, a tag whose group is not (inside) a top-level Definition group
has `#` in its extension -/
theorem injected_stray_placeholder (env : Env) (text : Str) (g : GV) (t : RTag)
    (hS : hasError (S env false text) = false) (hNA : NA env text = false)
    (hT : hasError (S env false text ++ T env false text) = false)
    (hg : g ∈ allGroups text.length (parse env text).root1) (ht : t ∈ directTags g.kids)
    (hdef : isDefGroup env (parse env text).root1 g = false)
    (hp : '#' ∈ extension t) :
    Spec.codeOf .strayPlaceholder ∈ codes (errors (validate env false text)) := by
  obtain ⟨k, hk⟩ := placeholderFrom_mem t ((orgBase t).length + 1) 0 hp
  have hi : ({ subIssue .invalidTagCharacter t ((orgBase t).length + 1 + k) ((orgBase t).length + 1 + k + 1) with
      code := val_PLACEHOLDER_INVALID } : Issue)
      ∈ tagSemIssues env false (isDefGroup env (parse env text).root1 g) t := by
    rw [hdef]
    apply mem_sem_of_individual
    simp only [individualIssues, List.mem_append]
    refine Or.inl (Or.inl (Or.inl (Or.inr ?_)))
    simpa [placeholderIssues] using hk
  exact conclude (reach_sem hS hNA hT (mem_M_of_tag hg ht hi)) rfl rfl

/-- bad unit: a unit-class tag whose extension keeps a blank and ends in no unit of its classes -/
theorem injected_bad_unit (env : Env) (ph : Bool) (text : Str) (g : GV) (t : RTag)
    (hS : hasError (S env ph text) = false) (hNA : NA env text = false)
    (hT : hasError (S env ph text ++ T env ph text) = false)
    (hg : g ∈ allGroups text.length (parse env text).root1) (ht : t ∈ directTags g.kids)
    (h1 : (shortBase env t == defKey) = false) (h2 : (shortBase env t == defExpandKey) = false)
    (h3 : (shortBase env t == definitionKey) = false) (h4 : (ph && (extension t).contains '#') = false)
    (h5 : (extension t == ['#']) = false) (hu : (tagUnitClasses env t).isEmpty = false)
    (hnf : unitFound env t (extension t) = false) (hbl : (strippedText env t (extension t)).contains ' ' = true) :
    Spec.codeOf .badUnit ∈ codes (errors (validate env ph text)) := by
  refine conclude (i := tagIssue .unitsInvalid t)
    (reach_sem hS hNA hT (mem_M_of_tag hg ht (mem_sem_of_units h1 h2 h3 h4 ?_))) rfl rfl
  have hbl' : ' ' ∈ strippedText env t (extension t) := by simpa using hbl
  simp [validateUnits, h5, hu, unitIssues, hnf, hbl']

/-- bad value: a unit-class tag whose value text matches the word pattern of none of its value classes
(and no class accepts it) -/
theorem injected_bad_value (env : Env) (ph : Bool) (text : Str) (g : GV) (t : RTag) (c : Str)
    (hS : hasError (S env ph text) = false) (hNA : NA env text = false)
    (hT : hasError (S env ph text ++ T env ph text) = false)
    (hg : g ∈ allGroups text.length (parse env text).root1) (ht : t ∈ directTags g.kids)
    (h1 : (shortBase env t == defKey) = false) (h2 : (shortBase env t == defExpandKey) = false)
    (h3 : (shortBase env t == definitionKey) = false) (h4 : (ph && (extension t).contains '#') = false)
    (h5 : (extension t == ['#']) = false) (hu : (tagUnitClasses env t).isEmpty = false)
    (htv : (entryAttr env t).takesValue = true) (hc : c ∈ (entryAttr env t).valueClasses)
    (hw : wordValid c (valueText env t (extension t)) = false)
    (hnone : ((entryAttr env t).valueClasses.any fun c =>
      wordValid c (valueText env t (extension t)) && (problemChars c (valueText env t (extension t))).isEmpty) = false) :
    Spec.codeOf .badValue ∈ codes (errors (validate env ph text)) := by
  have hne : (entryAttr env t).valueClasses.isEmpty = false := List.isEmpty_eq_false_iff_exists_mem.2 ⟨c, hc⟩
  refine conclude (i := { subIssue .valueClassValue t 0 t.org.length with txt := some c })
    (reach_sem hS hNA hT (mem_M_of_tag hg ht (mem_sem_of_units h1 h2 h3 h4 ?_))) rfl rfl
  rw [validateUnits, if_neg (by simp [h5]), if_pos (by simp [hu]), unitIssues, valueClassIssues]
  refine List.mem_append_left _ ?_
  simp only [htv, hne, hnone, Bool.not_true, Bool.false_eq_true, ↓reduceIte, List.mem_flatMap]
  exact ⟨c, hc, by simp [hw]⟩

/-- undeclared Def: a `Def` tag anywhere whose label is not in the definition dictionary -/
theorem injected_undeclared_def (env : Env) (ph : Bool) (text : Str) (g : GV) (t : RTag)
    (hS : hasError (S env ph text) = false) (hNA : NA env text = false)
    (hT : hasError (S env ph text ++ T env ph text) = false)
    (hg : g ∈ allGroups text.length (parse env text).root1) (ht : RNode.tag t ∈ g.kids)
    (hd : shortBase env t = defKey) (hno : defLookup env (defLabel t) = none) :
    Spec.codeOf .undeclaredDef ∈ codes (errors (validate env ph text)) := by
  have hi : tagIssue .defUnmatched t ∈ defContentIssues env t none := by
    simp [defContentIssues, defExpansion, hno]
  exact conclude (reach_sem hS hNA hT (mem_M_of_def hg (defIssuesOf_mem env t hd _ hi g.kids ht))) rfl rfl

/-- wrongly valued Def: the definition takes a value and none is given, or takes none and one is given -/
theorem injected_wrong_valued_def (env : Env) (ph : Bool) (text : Str) (g : GV) (t : RTag) (e : DefEntry)
    (hS : hasError (S env ph text) = false) (hNA : NA env text = false)
    (hT : hasError (S env ph text ++ T env ph text) = false)
    (hg : g ∈ allGroups text.length (parse env text).root1) (ht : RNode.tag t ∈ g.kids)
    (hd : shortBase env t = defKey) (hl : defLookup env (defLabel t) = some e)
    (hv : (e.takes == (defValue t).isEmpty) = true) :
    Spec.codeOf .wrongDefValue ∈ codes (errors (validate env ph text)) := by
  have hi : tagIssue (if e.takes then .defValueMissing else .defValueExtra) t ∈ defContentIssues env t none := by
    simp [defContentIssues, defExpansion, hl, hv]
  have hM := mem_M_of_def (ph := ph) hg (defIssuesOf_mem env t hd _ hi g.kids ht)
  generalize e.takes = b at hM
  cases b <;> exact conclude (reach_sem hS hNA hT hM) rfl rfl

/-- altered Def-expand: the group of a `Def-expand` tag differs (sorted compare) from the tag followed by the
definition's content with the value substituted -/
theorem injected_altered_def_expand (env : Env) (ph : Bool) (text : Str) (g : GV) (s : Nat × Nat)
    (kids rest : List RNode) (t : RTag)
    (hS : hasError (S env ph text) = false) (hNA : NA env text = false)
    (hT : hasError (S env ph text ++ T env ph text) = false)
    (hg : g ∈ allGroups text.length (parse env text).root1) (hk : RNode.group s kids ∈ g.kids)
    (ht : t ∈ directTags kids) (hd : shortBase env t = defExpandKey)
    (hx : defExpansion env t = .ok rest)
    (hne : listEq env (sortedView env kids) (sortedView env (.tag t :: rest)) = false) :
    Spec.codeOf .alteredDefExpand ∈ codes (errors (validate env ph text)) := by
  have hi : tagIssue .defExpandInvalid t ∈ defContentIssues env t (some kids) := by
    simp [defContentIssues, hx, hne]
  exact conclude (reach_sem hS hNA hT (mem_M_of_def hg (defIssuesOf_mem_expand env t s kids ht hd _ hi g.kids hk)))
    rfl rfl

/-- misplaced tag-group tag: a tag whose base entry has `tagGroup` sits directly in the string (no parentheses) -/
theorem injected_misplaced_tag_group (env : Env) (ph : Bool) (text : Str) (g : GV) (t : RTag)
    (hB : hasError (basic env ph text) = false)
    (hg : g ∈ allGroups text.length ((parse env text).final env)) (ht : t ∈ directTags g.kids)
    (ha : (baseAttr env t).tagGroup = true) (hgr : g.isGroup = false) :
    Spec.codeOf .misplacedTagGroup ∈ codes (errors (validate env ph text)) := by
  have hi : tagIssue .tagGroupTag t ∈ groupIssues env g := by
    simp only [groupIssues, levelIssues, List.mem_append, List.mem_flatMap, List.mem_filter]
    exact Or.inr (Or.inl (Or.inl ⟨t, ⟨ht, ha⟩, by simp [hgr]⟩))
  exact conclude (reach_full hB (mem_F_of_group hg hi)) rfl rfl

/-- misplaced top-level tag: a tag whose base entry has `topLevelTagGroup` is not in a top-level group -/
theorem injected_misplaced_top_level (env : Env) (ph : Bool) (text : Str) (g : GV) (t : RTag)
    (hB : hasError (basic env ph text) = false)
    (hg : g ∈ allGroups text.length ((parse env text).final env)) (ht : t ∈ directTags g.kids)
    (ha : (baseAttr env t).topLevelTagGroup = true) (htop : g.isTop = false) :
    Spec.codeOf .misplacedTopLevel ∈ codes (errors (validate env ph text)) := by
  have hi : tagIssue .topLevelTag t ∈ groupIssues env g := by
    simp only [groupIssues, levelIssues, List.mem_append, List.mem_flatMap, List.mem_filter]
    exact Or.inr (Or.inl (Or.inr ⟨t, ⟨ht, ha⟩, by simp [htop]⟩))
  exact conclude (reach_full hB (mem_F_of_group hg hi)) rfl rfl

/-- duplicated unique tag: two tags fall under the same `unique` entry -/
theorem injected_duplicated_unique (env : Env) (ph : Bool) (text : Str) (p : Str)
    (hB : hasError (basic env ph text) = false)
    (hp : p ∈ namesWith env (·.unique))
    (hc : countPrefix env (tagsList ((parse env text).final env)) p > 1) :
    Spec.codeOf .duplicatedUnique ∈ codes (errors (validate env ph text)) := by
  have hF : ({ Issue.plain .notUnique with txt := some p } : Issue) ∈ F env text := by
    simp only [F, fullIssues, fullPhase, List.mem_append]
    refine Or.inl (Or.inl (Or.inl (Or.inl (Or.inr ?_))))
    simp only [uniqueIssues, List.mem_flatMap]
    exact ⟨p, hp, by simp [hc]⟩
  exact conclude (reach_full hB hF) rfl rfl

theorem dupList_adjacent {env : Env} {a b : RNode} {post : List RNode} (heq : nodeEq env b a = true)
    {pre : List RNode} (prev : Option RNode) : repeatIssue b ∈ dupList env prev (pre ++ a :: b :: post) := by
  induction pre generalizing prev with
  | nil =>
    simp only [List.nil_append, dupList, List.mem_append]
    exact Or.inr (Or.inl (Or.inl (by simp [eqPrev, heq])))
  | cons x xs ih =>
    simp only [List.cons_append, dupList, List.mem_append]
    exact Or.inr (ih (some x))

theorem dupList_sub {env : Env} {s : Nat × Nat} {ks : List RNode} {i : Issue} (hi : i ∈ dupList env none ks)
    {w : List RNode} (prev : Option RNode) (h : RNode.group s ks ∈ w) : i ∈ dupList env prev w := by
  induction w generalizing prev with
  | nil => cases h
  | cons x xs ih =>
    simp only [dupList, List.mem_append]
    rcases List.mem_cons.1 h with rfl | h
    · exact Or.inl (Or.inr (by simpa [dupNode] using hi))
    · exact Or.inr (ih (some x) h)

/-- the child lists visited by the recursive duplicate walk -/
inductive Reach (top : List RNode) : List RNode → Prop
  | root : Reach top top
  | sub {w : List RNode} {s : Nat × Nat} {ks : List RNode} : Reach top w → RNode.group s ks ∈ w → Reach top ks

theorem dupList_reach {env : Env} {top w : List RNode} (h : Reach top w) {i : Issue} (hi : i ∈ dupList env none w) :
    i ∈ dupList env none top := by
  induction h with
  | root => exact hi
  | sub _ hm ih => exact ih (dupList_sub hi none hm)

theorem repeatIssue_code (b : RNode) :
    (repeatIssue b).code = Spec.codeOf .repeatedTag ∧ (repeatIssue b).sev = 1 := by
  cases b <;> exact ⟨rfl, rfl⟩

/-- repeated tag or group: at some level of the sorted view two neighbours are `==`; basic checks silent.
(When the real validator raises instead — `raises` — there is no issue list at all.) -/
theorem injected_repeated (env : Env) (ph : Bool) (text : Str) (w pre post : List RNode) (a b : RNode)
    (hB : hasError (basic env ph text) = false)
    (hR : Reach (sortedView env ((parse env text).final env)) w)
    (hw : w = pre ++ a :: b :: post) (heq : nodeEq env b a = true) :
    Spec.codeOf .repeatedTag ∈ codes (errors (validate env ph text)) ∧
    Spec.codeOf .repeatedGroup ∈ codes (errors (validate env ph text)) := by
  have h1 : repeatIssue b ∈ dupList env none w := by rw [hw]; exact dupList_adjacent heq none
  have hF : repeatIssue b ∈ F env text := by
    simp only [F, fullIssues, fullPhase, dupIssues, List.mem_append]
    exact Or.inl (Or.inl (Or.inr (dupList_reach hR h1)))
  have := conclude (reach_full hB hF) (repeatIssue_code b).2 (repeatIssue_code b).1
  exact ⟨this, this⟩

/-! ### lengths of slash-joined names, bounds of `find` -/

theorem joinSlash_length (n : Name) : (joinSlash n).length = joinLen n := by
  fun_induction joinLen n with
  | case1 => rfl
  | case2 c => rfl
  | case3 c cs h ih =>
    rw [joinSlash_cons c cs h, List.length_append, List.length_cons, ih]
    omega

theorem joinLen_append (a b : Name) (ha : a ≠ []) (hb : b ≠ []) :
    joinLen (a ++ b) = joinLen a + 1 + joinLen b := by
  rw [← joinSlash_length, joinSlash_append a b ha hb, List.length_append, List.length_cons, joinSlash_length,
    joinSlash_length]
  omega

theorem splitSlash_joinLen (s : Str) : joinLen (splitSlash s) = s.length := by
  rw [← joinSlash_length, joinSlash_splitSlash]

theorem splitSlash_ne_nil (s : Str) : splitSlash s ≠ [] := splitSlash_go_ne_nil [] s

theorem fold_length (s : Str) : (fold s).length = s.length := by simp [fold]

theorem joinLen_fold (n : Name) : joinLen (foldName fold n) = joinLen n := by
  fun_induction joinLen n with
  | case1 => rfl
  | case2 c => exact fold_length c
  | case3 c cs h ih =>
    rw [foldName, List.map_cons, joinLen, ← foldName, ih, fold_length]
    simpa [foldName] using h

theorem head_le_joinLen (l : Name) : (l.head?.getD []).length ≤ joinLen l := by
  fun_cases joinLen l with
  | case1 => exact Nat.le_refl _
  | case2 c => exact Nat.le_refl _
  | case3 c cs h => exact Nat.le_trans (Nat.le_add_right _ _) (Nat.le_add_right _ _)

theorem joinLen_take_drop {l : Name} {k : Nat} (h1 : 1 ≤ k) (h2 : k < l.length) :
    joinLen l = joinLen (l.take k) + 1 + joinLen (l.drop k) := by
  have := joinLen_append (l.take k) (l.drop k)
    (List.ne_nil_of_length_pos (by rw [List.length_take]; omega))
    (List.ne_nil_of_length_pos (by rw [List.length_drop]; omega))
  rwa [List.take_append_drop] at this

theorem last_le_joinLen {l : Name} {x : Str} (h2 : 2 ≤ l.length) (h : l.getLast? = some x) :
    x.length + 1 ≤ joinLen l := by
  have hne : l ≠ [] := List.ne_nil_of_length_pos (by omega)
  obtain rfl : l.getLast hne = x := Option.some.inj ((List.getLast?_eq_some_getLast hne).symm.trans h)
  have := joinLen_append l.dropLast [l.getLast hne]
    (List.ne_nil_of_length_pos (by rw [List.length_dropLast]; omega)) (List.cons_ne_nil _ _)
  rw [List.dropLast_concat_getLast hne] at this
  rw [this, joinLen]
  omega

theorem walk_bounds {tbl : Table} {w : Name} {e k' fuel : Nat} {cur : Option Nat} {k : Nat}
    (h : walk tbl w fuel cur k = some (e, k')) : k ≤ k' ∧ (cur = none → k + 1 ≤ k') := by
  -- every exit of the walk answers the position reached, provided an entry is known
  have stop (cur : Option Nat) (k : Nat) (h : cur.map (·, k) = some (e, k')) :
      k ≤ k' ∧ (cur = none → k + 1 ≤ k') := by
    cases cur with
    | none => cases h
    | some c =>
      obtain ⟨_, rfl⟩ := Prod.mk.inj (Option.some.inj h)
      exact ⟨Nat.le_refl _, nofun⟩
  fun_induction walk tbl w fuel cur k with
  | case3 _ _ _ _ _ _ ih =>
    have := (ih h).1
    exact ⟨Nat.le_of_succ_le this, fun _ => this⟩
  | _ => exact stop _ _ h

theorem badTerm_bounds {tbl : Table} {l : Name} {pos a b x : Nat} (h : badTerm tbl pos l = some (a, b, x)) :
    a ≤ b ∧ b ≤ pos + joinLen l := by
  fun_induction badTerm tbl pos l with
  | case1 => cases h
  | case2 pos c cs e he =>
    cases h
    exact ⟨Nat.le_add_right _ _, Nat.add_le_add_left (head_le_joinLen (c :: cs)) _⟩
  | case3 pos c cs he ih =>
    cases cs with
    | nil => cases h
    | cons d ds =>
      have := ih h
      simp only [joinLen]
      omega

theorem findComps_bounds (v : Vocab) (comps : Name) :
    match findComps v fold comps with
    | .found _ rem => rem.length ≤ joinLen comps
    | .noValidTag stop => stop ≤ joinLen comps
    | .invalidParent a b _ => a ≤ b ∧ b ≤ joinLen comps := by
  unfold findComps
  simp only []
  cases v.table.get (foldName fold comps) with
  | some e =>
    simp only []
    split
    · rename_i hc
      simp only [Bool.and_eq_true, beq_iff_eq, decide_eq_true_eq] at hc
      have := last_le_joinLen hc.2 hc.1
      rwa [joinLen_fold] at this
    · exact Nat.zero_le _
  | none =>
    simp only []
    cases hw : walk v.table (foldName fold comps) (foldName fold comps).length none 0 with
    | none => exact head_le_joinLen comps
    | some p =>
      obtain ⟨e, k⟩ := p
      have hk := (walk_bounds hw).2 rfl
      have hdrop : (foldName fold comps).drop k = foldName fold (comps.drop k) := List.map_drop.symm
      simp only [hdrop]
      by_cases hd : comps.drop k = []
      · rw [hd]
        cases v.valueChild fold e <;> exact Nat.zero_le _
      · have hj := joinLen_take_drop hk (Nat.lt_of_not_le (mt List.drop_eq_nil_iff.2 hd))
        simp only [List.isEmpty_iff, hd, if_false]
        cases v.valueChild fold e with
        | some ch =>
          simp only [List.length_cons, joinSlash_length]
          omega
        | none =>
          simp only []
          cases hb : badTerm v.table (joinLen (comps.take k) + 1) (foldName fold (comps.drop k)) with
          | none =>
            simp only [List.length_cons, joinSlash_length]
            omega
          | some x =>
            obtain ⟨a, b, y⟩ := x
            have := badTerm_bounds hb
            rw [joinLen_fold] at this
            simp only []
            omega

/-! ### every tag of the parsed tree lies in the text; its indices lie in the tag -/

/-- the location facts of a resolved tag -/
structure TagOK (text : Str) (t : RTag) : Prop where
  lt : t.span.1 < t.span.2
  le : t.span.2 ≤ text.length
  org : t.org.length = t.span.2 - t.span.1
  ns : t.ns.length ≤ t.org.length
  ext : t.extVal.length ≤ t.org.length
  ext0 : t.entry = none → t.extVal = []

/-- an issue's tag-relative index pair lies inside the tag it names, and that tag inside the text -/
def IssueOK (text : Str) (i : Issue) : Prop :=
  ∀ s e a b, i.span = some (s, e) → i.sub = some (a, b) → a ≤ b ∧ b ≤ e - s ∧ s ≤ e ∧ e ≤ text.length

theorem issueOK_nosub {text : Str} {i : Issue} (h : i.sub = none) : IssueOK text i :=
  fun _ _ _ _ _ hs => nomatch h.symm.trans hs

theorem issueOK_nospan {text : Str} {i : Issue} (h : i.span = none) : IssueOK text i :=
  fun _ _ _ _ hs _ => nomatch h.symm.trans hs

theorem issueOK_of {text : Str} {t : RTag} (ht : TagOK text t) {i : Issue} {a b : Nat}
    (hs : i.span = some t.span) (hsub : i.sub = some (a, b)) (hab : a ≤ b) (hb : b ≤ t.org.length) :
    IssueOK text i := by
  intro s e a' b' hs' hsub'
  have h1 : t.span = (s, e) := Option.some.inj (hs.symm.trans hs')
  cases Option.some.inj (hsub.symm.trans hsub')
  obtain ⟨h3, h4, h5⟩ := ht
  rw [h1] at h3 h4 h5
  simp only at h3 h4 h5
  exact ⟨hab, by omega, by omega, h4⟩

theorem namespaceOf_le {org : Str} : (namespaceOf org).length ≤ org.length := by
  fun_cases namespaceOf org
  · exact Nat.zero_le _
  · exact Nat.zero_le _
  · exact List.length_take_le' _ _
  · exact List.length_take_le' _ _

theorem orgBase_le (t : RTag) : (orgBase t).length ≤ t.org.length := by
  fun_cases orgBase t
  · exact Nat.le_refl _
  · exact Nat.zero_le _
  · exact List.length_take_le' _ _
  · exact Nat.le_refl _

theorem orgBase_ext {text : Str} {t : RTag} (ht : TagOK text t) (hne : (extension t) ≠ []) :
    (orgBase t).length + 1 + (extension t).length ≤ t.org.length := by
  have hx : t.extVal ≠ [] := fun e => hne (by rw [extension, e]; rfl)
  have hpos := List.length_pos_iff.2 hx
  have hl := ht.ext
  rw [extension, List.length_drop]
  fun_cases orgBase t with
  | case1 _ _ he => exact absurd (List.isEmpty_iff.1 he) hx
  | case2 _ _ _ heq =>
    have := eq_of_beq heq
    rw [List.length_nil]
    omega
  | case3 =>
    rw [List.length_take]
    omega
  | case4 hen => exact absurd (ht.ext0 hen) hx

/-- `_calculate_to_canonical_forms` on a not yet identified tag keeps the location facts, and its issues
(`NO_VALID_TAG_FOUND`, `INVALID_PARENT_NODE`, `HED_LIBRARY_UNMATCHED`) point inside the tag -/
theorem canon_ok {env : Env} {text : Str} {t : RTag} (ht : TagOK text t) (hn : t.entry = none) :
    TagOK text (canon env t).1 ∧ ∀ i ∈ (canon env t).2, IssueOK text i := by
  have keep : TagOK text { t with entry := none } := ⟨ht.lt, ht.le, ht.org, ht.ns, ht.ext, fun _ => ht.ext0 hn⟩
  have hns := ht.ns
  cases hc : (t.ns != env.ns) with
  | true =>
    simp only [canon, hc, if_true]
    exact ⟨keep, List.forall_mem_singleton.2 (issueOK_nosub rfl)⟩
  | false =>
    have hs : strOf env t = t.org := by rw [strOf, hn]
    have hb := findComps_bounds env.vocab (splitSlash (t.org.drop t.ns.length))
    rw [splitSlash_joinLen, List.length_drop] at hb
    simp only [canon, find, hc, hs, Bool.false_eq_true, if_false]
    generalize findComps env.vocab fold (splitSlash (t.org.drop t.ns.length)) = r at hb ⊢
    cases r with
    | found i rem =>
      refine ⟨⟨ht.lt, ht.le, ht.org, ht.ns, ?_, fun h => nomatch h⟩, List.forall_mem_nil _⟩
      show (if rem.isEmpty then t.extVal else rem).length ≤ t.org.length
      split
      · exact ht.ext
      · exact Nat.le_trans hb (Nat.sub_le _ _)
    | noValidTag stop =>
      exact ⟨keep, List.forall_mem_singleton.2 (issueOK_of ht rfl rfl (Nat.le_add_right _ _) (by omega))⟩
    | invalidParent a b x =>
      exact ⟨keep, List.forall_mem_singleton.2 (issueOK_of ht rfl rfl (by omega) (by omega))⟩

theorem mkTag_ok {env : Env} {text : Str} {a b : Nat} (hab : a < b) (hb : b ≤ text.length) :
    TagOK text (mkTag env text a b) := by
  have hlen : (Tree.slice text a b).length = b - a := by
    rw [Tree.slice, List.length_take, List.length_drop]
    omega
  unfold mkTag
  exact (canon_ok (t := ⟨(a, b), Tree.slice text a b, namespaceOf (Tree.slice text a b), none, []⟩)
    ⟨hab, hb, hlen, namespaceOf_le, by simp, fun _ => rfl⟩ rfl).1

mutual
theorem resolveNode_ok (env : Env) (text : Str) : ∀ (d : Nat) (n : Node), NodeNest text d n →
    ∀ t ∈ tagsNode (resolveNode env text n), TagOK text t
  | d, .tag a b, h => by
    rw [NodeNest] at h
    exact List.forall_mem_singleton.2 (mkTag_ok h.2.2.1 h.2.2.2)
  | d, .group a b kids, h => by
    rw [NodeNest] at h
    exact resolveList_ok env text (d + 1) kids h.2.2.2.2.2.2
theorem resolveList_ok (env : Env) (text : Str) : ∀ (d : Nat) (l : List Node), ListNest text d l →
    ∀ t ∈ tagsList (resolveList env text l), TagOK text t
  | d, [], _ => List.forall_mem_nil _
  | d, n :: ns, h => by
    rw [ListNest] at h
    exact List.forall_mem_append.2 ⟨resolveNode_ok env text d n h.1, resolveList_ok env text d ns h.2⟩
end

/-- every tag of the tree built by `HedString.__init__` lies in the text (C02 `nesting_depth`) -/
theorem root0_ok {env : Env} {text : Str} : ∀ t ∈ tagsList (parse env text).root0, TagOK text t := by
  rw [parse]
  by_cases hb : balanced text
  · obtain ⟨r, _, hc, hn⟩ := C02.nesting_depth text hb
    rw [hc]
    exact resolveList_ok env text 0 r hn
  · rw [C02.unbalanced_empty text hb]
    exact List.forall_mem_nil _

/-- Re-resolving an already identified tag from its short form (`str(tag)`) finds an entry again, raises no
issue and leaves a remainder that is not longer — a consequence of C03's `short_long_fixpoint` (same entry, same
remainder) for well-formed vocabularies; here a hypothesis on the text, evaluated by the driver on every case. -/
def LookupStable (env : Env) (text : Str) : Prop :=
  ∀ t ∈ tagsList (parse env text).root0, t.entry.isSome = true →
    (canon env t).2 = [] ∧ (canon env t).1.extVal.length ≤ t.extVal.length

theorem canon_keeps (env : Env) (t : RTag) :
    (canon env t).1.span = t.span ∧ (canon env t).1.org = t.org ∧ (canon env t).1.ns = t.ns ∧
      ((canon env t).2 = [] → (canon env t).1.entry.isSome = true) := by
  fun_cases canon env t
  · exact ⟨rfl, rfl, rfl, nofun⟩
  · exact ⟨rfl, rfl, rfl, fun _ => rfl⟩
  · exact ⟨rfl, rfl, rfl, nofun⟩
  · exact ⟨rfl, rfl, rfl, nofun⟩

theorem recanon_ok {env : Env} {text : Str} (hst : LookupStable env text) :
    (∀ t ∈ tagsList (parse env text).root1, TagOK text t) ∧ ∀ i ∈ (parse env text).lookup, IssueOK text i := by
  have tag : ∀ t ∈ tagsList (parse env text).root0,
      TagOK text (canon env t).1 ∧ ∀ i ∈ (canon env t).2, IssueOK text i := by
    intro t ht
    have ok := root0_ok t ht
    cases he : t.entry with
    | none => exact canon_ok ok he
    | some e =>
      obtain ⟨h2, hlen⟩ := hst t ht (by simp [he])
      obtain ⟨hs, ho, hn, hsome⟩ := canon_keeps env t
      generalize canon env t = r at h2 hlen hs ho hn hsome ⊢
      obtain ⟨⟨_, _, _, _, _⟩, _⟩ := r
      cases hs
      cases ho
      cases hn
      cases h2
      exact ⟨⟨ok.lt, ok.le, ok.org, ok.ns, Nat.le_trans hlen ok.ext,
        fun hnone => absurd hnone (Option.isSome_iff_ne_none.1 (hsome rfl))⟩, List.forall_mem_nil _⟩
  rw [parse, recanonList_tags, recanonList_issues]
  exact ⟨List.forall_mem_map.2 fun t ht => (tag t ht).1, List.forall_mem_flatMap.2 fun t ht => (tag t ht).2⟩

theorem slashMatches_bounds {s : Str} {i skip : Nat} :
    ∀ m ∈ slashMatches i skip s, m.1 ≤ m.2 ∧ m.2 ≤ i + s.length := by
  have rest {i n : Nat} {l : List (Nat × Nat)} (h : ∀ m ∈ l, m.1 ≤ m.2 ∧ m.2 ≤ i + 1 + n) :
      ∀ m ∈ l, m.1 ≤ m.2 ∧ m.2 ≤ i + (n + 1) := fun m hm => by
    have := h m hm
    omega
  fun_induction slashMatches i skip s with
  | case1 => exact List.forall_mem_nil _
  | case2 i skip c cs ih => exact rest ih
  | case3 i c cs run h ih =>
    exact List.forall_mem_cons.2 ⟨⟨Nat.le_add_right _ _,
      Nat.add_le_add_left (List.takeWhile_prefix isSlashRun).length_le i⟩, rest ih⟩
  | case4 i c cs run _ _ ih =>
    exact List.forall_mem_cons.2 ⟨⟨Nat.le_succ _, Nat.add_le_add_left (Nat.succ_pos _) i⟩, rest ih⟩
  | case5 i c cs run _ _ ih => exact rest ih

theorem slashIssues_ok {text : Str} {t : RTag} (ht : TagOK text t) : ∀ i ∈ slashIssues t, IssueOK text i :=
  List.forall_mem_map.2 fun m hm =>
    have := slashMatches_bounds m hm
    issueOK_of ht rfl rfl this.1 (by omega)

theorem invalidCharsFrom_ok {text : Str} {t : RTag} (ht : TagOK text t) {cd : CharData} {allowed : List Char}
    {ov : Option Str} (s : Str) (start : Nat) (hs : start + s.length ≤ t.org.length) :
    ∀ i ∈ invalidCharsFrom cd allowed t ov start s, IssueOK text i := by
  fun_induction invalidCharsFrom cd allowed t ov start s with
  | case1 => exact List.forall_mem_nil _
  | case2 start c cs ih =>
    rw [List.length_cons] at hs
    exact List.forall_mem_append.2 ⟨forall_mem_ite_nil fun _ =>
        List.forall_mem_singleton.2 (issueOK_of ht rfl rfl (Nat.le_succ _) (by omega)),
      ih (by omega)⟩

theorem placeholderFrom_ok {text : Str} {t : RTag} (ht : TagOK text t) {start : Nat} {s : Str} (n : Nat)
    (hs : start + n + s.length ≤ t.org.length) : ∀ i ∈ placeholderFrom t start n s, IssueOK text i := by
  fun_induction placeholderFrom t start n s with
  | case1 => exact List.forall_mem_nil _
  | case2 n c cs ih =>
    rw [List.length_cons] at hs
    exact List.forall_mem_append.2 ⟨forall_mem_ite_singleton fun _ => issueOK_of ht rfl rfl (Nat.le_succ _) (by omega),
      ih (by omega)⟩

theorem problemCharsFrom_bounds {ccs : List CharClass} {s : Str} {n : Nat} :
    ∀ p ∈ problemCharsFrom ccs n s, p.1 < n + s.length := by
  fun_induction problemCharsFrom ccs n s with
  | case1 => exact List.forall_mem_nil _
  | case2 n c cs ih =>
    rw [List.length_cons]
    refine List.forall_mem_append.2 ⟨forall_mem_ite_nil fun _ =>
      List.forall_mem_singleton.2 (Nat.lt_add_of_pos_right (Nat.succ_pos _)), fun p hp => ?_⟩
    have := ih p hp
    omega

theorem problemChars_bounds {cls sv : Str} : ∀ p ∈ problemChars cls sv, p.1 < sv.length := by
  unfold problemChars
  split
  · refine forall_mem_ite_nil fun _ p hp => ?_
    have := problemCharsFrom_bounds p hp
    omega
  · exact List.forall_mem_nil _

theorem findSubFrom_bounds {sub s : Str} {i j : Nat} (h : findSubFrom sub i s = some j) :
    j + sub.length ≤ i + s.length := by
  fun_induction findSubFrom sub i s with
  | case1 i he =>
    cases h
    rw [List.isEmpty_iff.1 he]
    exact Nat.le_refl _
  | case2 => cases h
  | case3 i c cs hp =>
    cases h
    exact Nat.add_le_add_left (List.isPrefixOf_iff_prefix.mp hp).length_le _
  | case4 i c cs hp ih =>
    have := ih h
    rw [List.length_cons]
    omega

theorem valueCharIssue_ok {text : Str} {t : RTag} (ht : TagOK text t) {c : Str} {ch : Char} {a b : Nat}
    (hab : a ≤ b) (hb : b ≤ t.org.length) :
    IssueOK text (if ch == '{' || ch == '}' then subIssue .curlyBrace t a b
      else { subIssue .valueClassChar t a b with txt := some c }) :=
  iteInduction (fun _ => issueOK_of ht rfl rfl hab hb) fun _ => issueOK_of ht rfl rfl hab hb

theorem valueClassIssues_ok {text : Str} {t : RTag} (ht : TagOK text t) {env : Env} {sv : Str}
    (hsv : sv.length ≤ (extension t).length) : ∀ i ∈ valueClassIssues env t sv, IssueOK text i := by
  unfold valueClassIssues
  refine forall_mem_ite_nil fun _ => forall_mem_ite_nil fun _ =>
    forall_mem_ite_nil fun _ => List.forall_mem_flatMap.2 fun c _ => ?_
  refine forall_mem_ite (fun _ => List.forall_mem_singleton.2 (issueOK_of ht rfl rfl (Nat.zero_le _) (Nat.le_refl _)))
    fun _ => List.forall_mem_map.2 fun p hp => valueCharIssue_ok ht (Nat.le_succ _) ?_
  -- `p.1 < sv.length`; positions are counted from where `findSub` finds `sv` in the extension, else from the end
  -- of the base tag
  have hk := problemChars_bounds p hp
  have hob := orgBase_ext ht (List.ne_nil_of_length_pos (by omega))
  cases hf : findSub (extension t) sv with
  | none => simp only; omega
  | some j =>
    have := findSubFrom_bounds hf
    simp only; omega

theorem rpartitionBlank_le (s : Str) :
    (Units.rpartitionBlank s).1.length ≤ s.length ∧ (Units.rpartitionBlank s).2.length ≤ s.length := by
  unfold Units.rpartitionBlank
  simp only []
  split
  · simp
  · simp only [List.length_reverse, List.length_drop, List.length_take]; omega

theorem unitsPortion_go_value {mods : List Units.Modifier} {fold' : Str → Str} {value units : Str}
    {cs : List Units.UnitClass} {ci : Nat} {m : Units.Match}
    (h : Units.unitsPortion.go mods fold' value units ci cs = some m) :
    m.value = value ∨ m.value = units := by
  fun_induction Units.unitsPortion.go mods fold' value units ci cs with
  | case1 => cases h
  | case2 =>
    cases h
    exact .inl rfl
  | case3 | case6 =>
    cases h
    exact .inr rfl
  | case4 | case5 | case7 | case8 =>
    rename_i ih
    exact ih h

theorem stripped_le {mods : List Units.Modifier} {classes : List Units.UnitClass} {text : Str} :
    (Units.stripped mods classes fold text).1.length ≤ text.length := by
  fun_cases Units.stripped mods classes fold text with
  | case1 | case3 => exact Nat.le_refl _
  | case2 m hu =>
    have hr := rpartitionBlank_le text
    unfold Units.unitsPortion at hu
    simp only [] at hu
    split at hu
    · cases hu
    · rcases unitsPortion_go_value hu with h | h <;> simp only [h] <;> omega

theorem valueText_le {env : Env} {t : RTag} {text : Str} (h : text.length ≤ (extension t).length) :
    (valueText env t text).length ≤ (extension t).length := by
  have hs : (strippedText env t text).length ≤ (extension t).length := by
    fun_cases strippedText env t text
    · exact Nat.le_trans stripped_le h
    · exact Nat.le_refl _
  fun_cases valueText env t text
  · exact Nat.le_trans (List.takeWhile_prefix _).length_le hs
  · exact hs

theorem validateUnits_ok {text : Str} {t : RTag} (ht : TagOK text t) {env : Env} {txt : Str}
    (h : txt.length ≤ (extension t).length) : ∀ i ∈ validateUnits env t txt, IssueOK text i := by
  unfold validateUnits unitIssues extensionCharIssues
  refine forall_mem_ite_nil fun _ => forall_mem_ite (fun _ => ?_) fun _ =>
    forall_mem_ite (fun _ => valueClassIssues_ok ht h) fun _ => forall_mem_ite (fun hne => ?_) fun _ =>
    List.forall_mem_nil _
  · exact List.forall_mem_append.2 ⟨valueClassIssues_ok ht (valueText_le h),
      forall_mem_ite_nil fun _ => List.forall_mem_singleton.2 (issueOK_nosub rfl)⟩
  · have := orgBase_ext ht (by simpa using hne)
    exact invalidCharsFrom_ok ht txt _ (by omega)

theorem tagCharIssues_ok {text : Str} {t : RTag} (ht : TagOK text t) {env : Env} {ph : Bool} :
    ∀ i ∈ tagCharIssues env ph t, IssueOK text i :=
  List.forall_mem_append.2
    ⟨forall_mem_ite_singleton fun _ => issueOK_nosub rfl,
      invalidCharsFrom_ok ht _ 0 (by have := orgBase_le t; omega)⟩

theorem individualIssues_ok {text : Str} {t : RTag} (ht : TagOK text t) {env : Env} {ph isDef : Bool} :
    ∀ i ∈ individualIssues env ph isDef t, IssueOK text i := by
  unfold individualIssues existsIssues placeholderIssues styleIssues
  simp only [List.forall_mem_append]
  refine ⟨⟨⟨⟨?_, ?_⟩, ?_⟩, ?_⟩, ?_⟩
  · exact forall_mem_ite_nil fun _ =>
      forall_mem_ite (fun _ => List.forall_mem_singleton.2 (issueOK_nosub rfl)) fun _ =>
      List.forall_mem_singleton.2 (issueOK_of ht rfl rfl (orgBase_le t) (Nat.le_refl _))
  · refine forall_mem_ite (fun _ => forall_mem_ite_nil fun _ => ?_) fun _ =>
      List.forall_mem_nil _
    by_cases hx : extension t = []
    · rw [hx]
      exact List.forall_mem_nil _
    · have := orgBase_ext ht hx
      exact placeholderFrom_ok ht 0 (by omega)
  · exact forall_mem_ite_singleton fun _ => issueOK_nosub rfl
  · exact forall_mem_ite_singleton fun _ => issueOK_nosub rfl
  · exact forall_mem_ite_singleton fun _ => issueOK_nosub rfl

theorem findCharAt_bounds {ch : Char} {s : Str} {i j : Nat} (h : findCharAt ch i s = some j) :
    i ≤ j ∧ j < i + s.length := by
  fun_induction findCharAt ch i s with
  | case1 => cases h
  | case2 i c cs hc =>
    cases h
    exact ⟨Nat.le_refl _, Nat.lt_add_of_pos_right (Nat.succ_pos _)⟩
  | case3 i c cs hc ih =>
    have := ih h
    rw [List.length_cons]
    omega

theorem findCharFrom_lt {text : Str} {ch : Char} {start j : Nat} (h : findCharFrom text ch start = some j) :
    j < text.length := by
  have := findCharAt_bounds h
  rw [List.length_drop] at this
  omega

theorem relocate_bounds {text : Str} {es : List (Nat × Char)} {start : Nat} :
    ∀ r ∈ relocate text start es, r.2.1 ≤ r.2.2 ∧ r.2.2 ≤ text.length := by
  fun_induction relocate text start es with
  | case1 => exact List.forall_mem_nil _
  | case2 start k ch es j hj ih =>
    exact List.forall_mem_cons.2 ⟨⟨Nat.le_succ _, findCharFrom_lt hj⟩, ih⟩
  | case3 start k ch es hj ih => exact List.forall_mem_cons.2 ⟨⟨Nat.zero_le _, Nat.le_refl _⟩, ih⟩

/-- the value of a Def tag checked inside its definition (`report_as`): in range once the characters are
located in the Def tag itself (`defCharRelocate`) -/
theorem valueClassIssuesAs_ok {text : Str} {rep : RTag} (ht : TagOK text rep) {env : Env} {orig : RTag} {sv : Str}
    (hv : env.var.defCharRelocate = true) : ∀ i ∈ valueClassIssuesAs env orig rep sv, IssueOK text i := by
  unfold valueClassIssuesAs
  simp only [hv, if_true]
  refine forall_mem_ite_nil fun _ => forall_mem_ite_nil fun _ =>
    forall_mem_ite_nil fun _ => List.forall_mem_flatMap.2 fun c _ => ?_
  refine forall_mem_ite (fun _ => List.forall_mem_singleton.2 (issueOK_of ht rfl rfl (Nat.zero_le _) (Nat.le_refl _)))
    fun _ => List.forall_mem_map.2 fun r hr => ?_
  have := relocate_bounds r hr
  exact valueCharIssue_ok ht this.1 this.2

theorem withErrorCode_ok {text : Str} {code : Str} {l : List Issue} (h : ∀ i ∈ l, IssueOK text i) :
    ∀ i ∈ withErrorCode code l, IssueOK text i := by
  cases l with
  | nil => exact List.forall_mem_nil _
  | cons j js =>
    exact forall_mem_ite (fun _ => h) fun _ =>
      List.forall_mem_append.2 ⟨h, List.forall_mem_singleton.2 (h j List.mem_cons_self)⟩

theorem defUnits_ok {text : Str} {rep : RTag} (ht : TagOK text rep) {env : Env} {p : RTag} {txt code : Str}
    (hv : env.var.defCharRelocate = true) : ∀ i ∈ defUnits env p rep txt code, IssueOK text i :=
  forall_mem_ite_nil fun _ => forall_mem_ite
    (fun _ => withErrorCode_ok (List.forall_mem_append.2 ⟨valueClassIssuesAs_ok ht hv,
      forall_mem_ite_nil fun _ => List.forall_mem_singleton.2 (issueOK_nosub rfl)⟩))
    fun _ => forall_mem_ite (fun _ => valueClassIssuesAs_ok ht hv) fun _ => List.forall_mem_nil _

theorem defValueIssues_ok {text : Str} {t : RTag} (ht : TagOK text t) {env : Env}
    (hd : env.var.defCharRelocate = true ∨ env.defs = []) : ∀ i ∈ defValueIssues env t, IssueOK text i := by
  unfold defValueIssues
  cases hd with
  | inr h0 =>
    rw [defLookup, h0]
    exact List.forall_mem_nil _
  | inl hv =>
    split
    · exact List.forall_mem_nil _
    · refine List.forall_mem_append.2 ⟨valueClassIssues_ok ht (List.takeWhile_prefix _).length_le, ?_⟩
      split
      · exact List.forall_mem_nil _
      · exact defUnits_ok ht hv

theorem tagSemIssues_ok {text : Str} {t : RTag} (ht : TagOK text t) {env : Env} {ph isDef : Bool}
    (hd : env.var.defCharRelocate = true ∨ env.defs = []) : ∀ i ∈ tagSemIssues env ph isDef t, IssueOK text i := by
  unfold tagSemIssues
  refine List.forall_mem_append.2 ⟨List.forall_mem_append.2 ⟨?_, individualIssues_ok ht⟩, ?_⟩
  · exact forall_mem_ite_singleton fun _ => issueOK_nosub rfl
  · exact forall_mem_ite (fun _ => defValueIssues_ok ht hd) fun _ =>
      forall_mem_ite (fun _ => validateUnits_ok ht (by simp only [List.length_take]; omega)) fun _ =>
      forall_mem_ite (fun _ => validateUnits_ok ht (Nat.le_refl _)) fun _ => List.forall_mem_nil _

theorem tagIssue_sub (k : Kind) (t : RTag) : (tagIssue k t).sub = none := rfl

theorem level_nosub {env : Env} {g : GV} : ∀ i ∈ levelIssues env g, i.sub = none := by
  unfold levelIssues
  refine List.forall_mem_append.2 ⟨List.forall_mem_append.2 ⟨?_, ?_⟩, ?_⟩
  · exact List.forall_mem_flatMap.2 fun t _ => forall_mem_ite_singleton fun _ => rfl
  · refine List.forall_mem_flatMap.2 fun t _ => forall_mem_ite (fun _ => ?_) fun _ => List.forall_mem_nil _
    refine List.forall_mem_append.2 ⟨?_, List.forall_mem_singleton.2 rfl⟩
    exact forall_mem_ite (fun _ => List.forall_mem_singleton.2 rfl) fun _ => forall_mem_ite_singleton fun _ => rfl
  · refine forall_mem_ite (fun _ => ?_) fun _ => List.forall_mem_nil _
    split
    · exact List.forall_mem_singleton.2 rfl
    · exact List.forall_mem_nil _

theorem repeatIssue_sub (n : RNode) : (repeatIssue n).sub = none := by cases n <;> rfl

mutual
theorem dupNode_nosub (env : Env) : ∀ (n : RNode), ∀ i ∈ dupNode env n, i.sub = none
  | .tag _ => List.forall_mem_nil _
  | .group _ kids => by
    rw [dupNode]
    exact dupList_nosub env none kids
theorem dupList_nosub (env : Env) : ∀ (prev : Option RNode) (l : List RNode), ∀ i ∈ dupList env prev l, i.sub = none
  | _, [] => List.forall_mem_nil _
  | prev, c :: cs => by
    rw [dupList]
    exact List.forall_mem_append.2 ⟨List.forall_mem_append.2
      ⟨forall_mem_ite_singleton fun _ => repeatIssue_sub c, dupNode_nosub env c⟩, dupList_nosub env (some c) cs⟩
end

theorem onsetDef_nosub {env : Env} {dt : RTag} : ∀ i ∈ onsetDefIssues env dt, i.sub = none := by
  fun_cases onsetDefIssues env dt with
  | case1 | case2 => exact List.forall_mem_singleton.2 rfl
  | case3 => exact List.forall_mem_nil _

theorem onsetGroup_nosub {env : Env} {onset : RTag} {kids : List RNode} :
    ∀ i ∈ onsetGroupIssues env onset kids, i.sub = none := by
  unfold onsetGroupIssues
  split
  · exact List.forall_mem_singleton.2 rfl
  · refine forall_mem_ite (fun _ => List.forall_mem_singleton.2 rfl) fun _ =>
      List.forall_mem_append.2 ⟨?_, onsetDef_nosub⟩
    split
    · exact List.forall_mem_singleton.2 rfl
    · exact List.forall_mem_nil _
  · exact List.forall_mem_singleton.2 rfl

theorem full_nosub {env : Env} {len : Nat} {root : List RNode} : ∀ i ∈ fullPhase env len root, i.sub = none := by
  unfold fullPhase requiredIssues uniqueIssues onsetIssues
  simp only [List.forall_mem_append]
  refine ⟨⟨⟨⟨⟨?_, ?_⟩, ?_⟩, dupList_nosub env none _⟩, ?_⟩, ?_⟩
  · exact List.forall_mem_flatMap.2 fun _ _ => forall_mem_ite_singleton fun _ => rfl
  · exact List.forall_mem_flatMap.2 fun _ _ => forall_mem_ite_singleton fun _ => rfl
  · exact List.forall_mem_flatMap.2 fun g _ =>
      List.forall_mem_append.2 ⟨forall_mem_ite_singleton fun _ => rfl, level_nosub⟩
  · exact List.forall_mem_flatMap.2 fun ⟨_, _, _⟩ _ => forall_mem_ite_nil fun _ =>
      forall_mem_ite (fun _ => List.forall_mem_map.2 fun _ _ => rfl) fun _ => forall_mem_ite_singleton fun _ => rfl
  · exact List.forall_mem_flatMap.2 fun _ _ => onsetGroup_nosub

theorem defContent_nosub {env : Env} {t : RTag} {grp : Option (List RNode)} :
    ∀ i ∈ defContentIssues env t grp, i.sub = none := by
  fun_cases defContentIssues env t grp with
  | case1 | case2 | case3 => exact List.forall_mem_singleton.2 rfl
  | case4 | case5 => exact List.forall_mem_nil _

theorem defIssuesOf_nosub {env : Env} {l : List RNode} : ∀ i ∈ defIssuesOf env l, i.sub = none := by
  fun_induction defIssuesOf env l with
  | case1 => exact List.forall_mem_nil _
  | case2 t ns ih =>
    exact List.forall_mem_append.2
      ⟨forall_mem_ite (fun _ => defContent_nosub) fun _ => List.forall_mem_nil _, ih⟩
  | case3 _ _ ns ih =>
    exact List.forall_mem_append.2 ⟨List.forall_mem_flatMap.2 fun t _ => defContent_nosub, ih⟩

theorem directTags_sub (l : List RNode) : ∀ t ∈ directTags l, t ∈ tagsList l := by
  fun_induction directTags l with
  | case1 => exact fun _ h => h
  | case2 t0 ns ih =>
    intro t h
    rcases List.mem_cons.1 h with rfl | h
    · exact List.mem_append_left _ (List.mem_singleton_self _)
    · exact List.mem_append_right _ (ih t h)
  | case3 _ _ ns ih => exact fun t h => List.mem_append_right _ (ih t h)

mutual
theorem groupsNode_tags : ∀ (top : Bool) (n : RNode) (g : GV), g ∈ groupsNode top n →
    ∀ t ∈ tagsList g.kids, t ∈ tagsNode n
  | _, .tag _, _, hg, _, _ => nomatch hg
  | _, .group s kids, g, hg, t, ht => by
    rw [groupsNode] at hg
    rw [tagsNode]
    rcases List.mem_cons.1 hg with rfl | hg
    · exact ht
    · exact groupsList_tags false kids g hg t ht
theorem groupsList_tags : ∀ (top : Bool) (l : List RNode) (g : GV), g ∈ groupsList top l →
    ∀ t ∈ tagsList g.kids, t ∈ tagsList l
  | _, [], _, hg, _, _ => nomatch hg
  | top, n :: ns, g, hg, t, ht => by
    rw [groupsList] at hg
    rw [tagsList]
    rcases List.mem_append.1 hg with hg | hg
    · exact List.mem_append_left _ (groupsNode_tags top n g hg t ht)
    · exact List.mem_append_right _ (groupsList_tags top ns g hg t ht)
end

theorem allGroups_tags {len : Nat} {root : List RNode} {g : GV} (hg : g ∈ allGroups len root) {t : RTag}
    (ht : t ∈ directTags g.kids) : t ∈ tagsList root := by
  have ht' := directTags_sub _ t ht
  rcases List.mem_cons.1 hg with rfl | hg
  · exact ht'
  · exact groupsList_tags true root g hg t ht'

/-! #### the delimiter scan: positions and absence of a tag -/

structure DInv (n : Nat) (st : Validate.DSt) : Prop where
  iss : ∀ x ∈ st.issues, x.span = none ∧ ∀ k, x.chr = some k → k < n
  last : st.last.isSome = true → st.lastIdx < n

/-- a step appends at most one issue, at the current position, and keeps the last delimiter or records the position -/
theorem DInv.step {i : Nat} {st st' : Validate.DSt} (h : DInv i st) {new : List Issue}
    (hi : st'.issues = st.issues ++ new) (hn : new = [] ∨ new = [emptyAt i] ∨ ∃ t, new = [commaMissing t])
    (hl : st'.lastIdx = i ∨ (st'.last = st.last ∧ st'.lastIdx = st.lastIdx)) : DInv (i + 1) st' := by
  constructor
  · rw [hi]
    refine List.forall_mem_append.2
      ⟨fun x hx => ⟨(h.iss x hx).1, fun k hk => Nat.lt_succ_of_lt ((h.iss x hx).2 k hk)⟩, ?_⟩
    rcases hn with rfl | rfl | ⟨t, rfl⟩
    · exact List.forall_mem_nil _
    · exact List.forall_mem_singleton.2 ⟨rfl, fun k hk => Option.some.inj hk ▸ Nat.lt_succ_self i⟩
    · exact List.forall_mem_singleton.2 ⟨rfl, nofun⟩
  · intro hs
    rcases hl with e | ⟨e1, e2⟩
    · rw [e]
      exact Nat.lt_succ_self i
    · rw [e2]
      rw [e1] at hs
      exact Nat.lt_succ_of_lt (h.last hs)

theorem dstep_inv {cd : CharData} {st : Validate.DSt} {i : Nat} {c : Char} (h : DInv i st) :
    DInv (i + 1) (dstep cd st i c) := by
  have same {st' : Validate.DSt} (hi : st'.issues = st.issues) :=
    h.step (st' := st') (hi.trans (List.append_nil _).symm) (.inl rfl)
  -- the branches of `dstep` in the order of the code
  fun_cases dstep cd st i c
  · exact same rfl (.inr ⟨rfl, rfl⟩)
  · exact same rfl (.inr ⟨rfl, rfl⟩)
  · exact h.step rfl (.inr (.inl rfl)) (.inr ⟨rfl, rfl⟩)
  · exact same rfl (.inl rfl)
  · exact same rfl (.inl rfl)
  · exact h.step rfl (.inr (.inr ⟨_, rfl⟩)) (.inl rfl)
  · exact h.step rfl (.inr (.inl rfl)) (.inl rfl)
  · exact h.step rfl (.inr (.inr ⟨_, rfl⟩)) (.inr ⟨rfl, rfl⟩)
  · exact same rfl (.inl rfl)

theorem drun_inv {cd : CharData} {s : Str} {st : Validate.DSt} {i : Nat} (h : DInv i st) :
    DInv (i + s.length) (drun cd st i s) := by
  fun_induction drun cd st i s with
  | case1 => exact h
  | case2 st i c cs ih =>
    rw [List.length_cons, ← Nat.add_assoc, Nat.add_right_comm]
    exact ih (dstep_inv h)

theorem delimIssues_props {cd : CharData} {text : Str} :
    ∀ x ∈ delimIssues cd text, x.span = none ∧ ∀ k, x.chr = some k → k < text.length := by
  have h : DInv (0 + text.length) (drun cd {} 0 text) :=
    drun_inv ⟨List.forall_mem_nil _, fun hl => nomatch hl⟩
  rw [Nat.zero_add] at h
  refine List.forall_mem_append.2 ⟨h.iss, forall_mem_ite_singleton fun hl => ⟨rfl, fun k hk => ?_⟩⟩
  cases hk
  exact h.last (by rw [eq_of_beq hl]; rfl)

theorem charIssuesFrom_props {env : Env} {ph : Bool} {s : Str} {n : Nat} :
    ∀ x ∈ charIssuesFrom env ph n s, x.span = none ∧ ∀ k, x.chr = some k → k < n + s.length := by
  fun_induction charIssuesFrom env ph n s with
  | case1 => exact List.forall_mem_nil _
  | case2 n c cs ih =>
    rw [List.length_cons]
    refine List.forall_mem_append.2 ⟨forall_mem_ite_singleton fun _ => ⟨rfl, fun k hk => ?_⟩, fun x hx => ?_⟩
    · cases hk
      omega
    · have := ih x hx
      exact ⟨this.1, fun k hk => by have := this.2 k hk; omega⟩

theorem stringPhase_props {env : Env} {ph : Bool} {text : Str} {tags : List RTag} :
    ∀ i ∈ stringPhase env ph text tags,
      (i.span = none ∧ ∀ k, i.chr = some k → k < text.length) ∨
        (i.chr = none ∧ ∃ t ∈ tags, i ∈ slashIssues t) := by
  unfold stringPhase charIssues parenIssues
  simp only [List.forall_mem_append]
  refine ⟨⟨⟨fun i h => .inl ?_, forall_mem_ite_singleton fun _ => .inl ⟨rfl, nofun⟩⟩,
    fun i h => .inl (delimIssues_props i h)⟩,
    List.forall_mem_flatMap.2 fun t ht i h => .inr ⟨?_, t, ht, h⟩⟩
  · have := charIssuesFrom_props i h
    rwa [Nat.zero_add] at this
  · obtain ⟨m, _, rfl⟩ := List.mem_map.1 h
    rfl

/-- **Character offsets of the string phase.** An issue of the raw-string checks with a `char_index` (forbidden
character, tilde, empty tag) is reported by `validate` and points inside the text. -/
theorem issue_char_index_in_text (env : Env) (ph : Bool) (text : Str) (i : Issue)
    (hi : i ∈ stringIssues env ph text (parse env text)) (k : Nat) (hk : i.chr = some k) :
    i ∈ validate env ph text ∧ k < text.length := by
  refine ⟨reach_string hi, ?_⟩
  rcases stringPhase_props i hi with h | h
  · exact h.2 k hk
  · rw [h.1] at hk
    cases hk

/-- **Tag-relative indices.** Every issue reported by `validate` that names a tag (span `(s, e)`) and carries an
index pair `(a, b)` has `a ≤ b ≤ e − s`, and the tag lies in the text (C02's `nesting_depth`) — the premise of
`C12.offsets_in_range`.  `hst`: C03's fixpoint, evaluated per case by the driver (see `LookupStable`); `hd`: no
definitions are declared, or the value of a Def tag is located in the Def tag itself
(fixes/C01_def_value_char_index.diff; without it `def_value_index_counterexample`). -/
theorem issue_indices_in_tag (env : Env) (ph : Bool) (text : Str) (hst : LookupStable env text)
    (hd : env.var.defCharRelocate = true ∨ env.defs = []) (i : Issue) (hi : i ∈ validate env ph text)
    (s e a b : Nat) (hspan : i.span = some (s, e)) (hsub : i.sub = some (a, b)) :
    a ≤ b ∧ b ≤ e - s ∧ s ≤ e ∧ e ≤ text.length := by
  refine (?_ : IssueOK text i) s e a b hspan hsub
  rcases (reported_iff_earlier_phases_silent env ph text i).1 hi with h | ⟨_, _, h⟩ | ⟨_, _, _, h⟩ | ⟨_, _, h⟩
  · rcases stringPhase_props i h with h | ⟨_, t, ht, h⟩
    · exact issueOK_nospan h.1
    · exact slashIssues_ok (root0_ok t ht) i h
  · exact List.forall_mem_append.2 ⟨List.forall_mem_flatMap.2 fun t ht =>
      tagCharIssues_ok (root0_ok t ht), (recanon_ok hst).2⟩ i h
  · exact List.forall_mem_append.2 ⟨List.forall_mem_flatMap.2 fun g hg => List.forall_mem_flatMap.2 fun t ht =>
        tagSemIssues_ok ((recanon_ok hst).1 t (allGroups_tags hg ht)) hd,
      List.forall_mem_flatMap.2 fun g _ j hj => issueOK_nosub (defIssuesOf_nosub j hj)⟩ i h
  · exact issueOK_nosub (full_nosub i h)

/-- **Every rule predicate is false of the text.**  One field per rule of `validate`, in the code's order.
Characters, parentheses and slashes are spelled out; each other field says that the rule's function reports no
error-severity issue on this tag / group / string (warnings are allowed).  The tag-level fields are void for `n/a`.
Outside the model (see `Validate.unmodelledP`, and the note in MANIFEST): several schemas at once; a Def value
holding a character the extension rule rejects when the definition's placeholder tag has no unit or value class;
dictionaries that `DefinitionDict` itself rejects. -/
structure Clean (env : Env) (ph : Bool) (text : Str) : Prop where
  chars : ∀ c ∈ text, badChar env ph c = false
  parens : Paren.mismatch text = false
  delim : errors (delimIssues env.cd text) = []
  slashes : ∀ t ∈ tagsList (parse env text).root0, slashMatches 0 0 t.org = []
  tagChars : NA env text = false → ∀ t ∈ tagsList (parse env text).root0, errors (tagCharIssues env ph t) = []
  lookup : NA env text = false → errors (parse env text).lookup = []
  tags : NA env text = false → ∀ g ∈ allGroups text.length (parse env text).root1, ∀ t ∈ directTags g.kids,
    errors (tagSemIssues env ph (isDefGroup env (parse env text).root1 g) t) = []
  noDef : NA env text = false → ∀ g ∈ allGroups text.length (parse env text).root1, errors (defIssuesOf env g.kids) = []
  required : errors (requiredIssues env (tagsList ((parse env text).final env))) = []
  unique : errors (uniqueIssues env (tagsList ((parse env text).final env))) = []
  groups : ∀ g ∈ allGroups text.length ((parse env text).final env), errors (groupIssues env g) = []
  noRepeat : errors (dupIssues env ((parse env text).final env)) = []
  duration : errors (durationIssues env ((parse env text).final env)) = []
  temporal : errors (onsetIssues env ((parse env text).final env)) = []

theorem errors_append_nil {a b : List Issue} : errors (a ++ b) = [] ↔ errors a = [] ∧ errors b = [] := by
  rw [errors, List.filter_append, List.append_eq_nil_iff]
  rfl

theorem errors_flatMap_nil_iff {α} (l : List α) (f : α → List Issue) :
    errors (l.flatMap f) = [] ↔ ∀ x ∈ l, errors (f x) = [] := by
  rw [errors, List.filter_flatMap, List.flatMap_eq_nil_iff]
  rfl

theorem errors_ite_nil_iff {l r : List Issue} :
    errors (if hasError l then l else r) = [] ↔ errors l = [] ∧ errors r = [] := by
  cases h : hasError l
  · simp [hasError_eq_false_iff.1 h]
  · have : errors l ≠ [] := fun e => nomatch h.symm.trans (hasError_eq_false_iff.2 e)
    simp [this]

theorem errors_validate_nil_iff (env : Env) (ph : Bool) (text : Str) :
    errors (validate env ph text) = [] ↔ errors (S env ph text) = [] ∧ errors (F env text) = [] ∧
      (NA env text = false → errors (T env ph text) = [] ∧ errors (M env ph text) = []) := by
  rw [phase_structure, errors_ite_nil_iff]
  cases NA env text
  · simp only [Bool.false_eq_true, if_false, errors_ite_nil_iff, errors_append_nil]
    grind
  · simp only [if_true, errors_append_nil]
    grind

theorem charIssue_isError (n : Nat) (c : Char) : (charIssue n c).isError = true := by
  cases h : (c == '~') <;> simp [charIssue, h, Issue.isError, Issue.plain] <;> decide

theorem charIssuesFrom_errors_iff (env : Env) (ph : Bool) (s : Str) (n : Nat) :
    errors (charIssuesFrom env ph n s) = [] ↔ ∀ c ∈ s, badChar env ph c = false := by
  fun_induction charIssuesFrom env ph n s with
  | case1 => simp [errors]
  | case2 n d ds ih =>
    rw [errors_append_nil, ih, List.forall_mem_cons]
    refine and_congr_left' ?_
    cases badChar env ph d
    · simp [errors]
    · simp [errors, charIssue_isError]

theorem parenIssues_errors_iff (text : Str) : errors (parenIssues text) = [] ↔ Paren.mismatch text = false := by
  unfold parenIssues
  cases Paren.mismatch text
  · simp [errors]
  · simp [errors, Issue.isError, Issue.plain]
    decide

theorem slashIssues_errors_iff (t : RTag) : errors (slashIssues t) = [] ↔ slashMatches 0 0 t.org = [] := by
  rw [slashIssues, errors, List.filter_eq_self.2 (List.forall_mem_map.2 fun _ _ => rfl), List.map_eq_nil_iff]

/-- **The verdict, for the modelled fragment.** -/
theorem no_error_iff_clean (env : Env) (ph : Bool) (text : Str) :
    errors (validate env ph text) = [] ↔ Clean env ph text := by
  rw [errors_validate_nil_iff]
  simp only [S, T, M, F, stringIssues, stringPhase, charIssues, tagIssues, semIssues, individualPhase, defPhase,
    fullIssues, fullPhase, errors_append_nil, errors_flatMap_nil_iff, charIssuesFrom_errors_iff,
    parenIssues_errors_iff, slashIssues_errors_iff]
  constructor
  · rintro ⟨⟨⟨⟨h1, h2⟩, h3⟩, h4⟩, ⟨⟨⟨⟨⟨h9, h10⟩, h11⟩, h12⟩, h13⟩, h14⟩, h⟩
    exact ⟨h1, h2, h3, h4, fun hna => (h hna).1.1, fun hna => (h hna).1.2, fun hna => (h hna).2.1,
      fun hna => (h hna).2.2, h9, h10, h11, h12, h13, h14⟩
  · intro h
    exact ⟨⟨⟨⟨h.chars, h.parens⟩, h.delim⟩, h.slashes⟩,
      ⟨⟨⟨⟨⟨h.required, h.unique⟩, h.groups⟩, h.noRepeat⟩, h.duration⟩, h.temporal⟩,
      fun hna => ⟨⟨h.tagChars hna, h.lookup hna⟩, h.tags hna, h.noDef hna⟩⟩

/-- **Rule-conforming ⇒ no error**, for every schema / dictionary / placeholder mode / text. -/
theorem valid_no_error (env : Env) (ph : Bool) (text : Str) (h : Clean env ph text) :
    errors (validate env ph text) = [] :=
  (no_error_iff_clean env ph text).2 h

/-- **No error ⇒ every modelled rule predicate is false**: the short-circuits hide nothing. -/
theorem no_error_implies_clean (env : Env) (ph : Bool) (text : Str) (h : errors (validate env ph text) = []) :
    Clean env ph text :=
  (no_error_iff_clean env ph text).1 h

end HedVerif.C01

/-! ### non-vacuity: a small vocabulary -/
namespace HedVerif.C01.Tiny
open HedVerif HedVerif.Schema HedVerif.Validate HedVerif.C01

def names : List Str :=
  [['R','e','d'], ['I','t','e','m'], ['I','t','e','m','/','O','b','j','e','c','t'], ['L','a','b','e','l'],
   ['L','a','b','e','l','/','#'], ['E','v','e','n','t','-','c','o','n','t','e','x','t'], ['D','e','f'], ['D','e','f','/','#'],
   ['D','e','f','-','e','x','p','a','n','d'], ['D','e','f','-','e','x','p','a','n','d','/','#'],
   ['D','e','f','i','n','i','t','i','o','n'], ['D','e','f','i','n','i','t','i','o','n','/','#']]

/-- Red; Item (extension allowed) > Object; Label (requireChild) > # (takesValue, nameClass);
Event-context (topLevelTagGroup, unique); Def (requireChild) > # -/
def env : Env :=
  { vocab := Vocab.build fold (names.map splitSlash), ns := [],
    attrs := #[{}, { extensionAllowed := true }, { extensionAllowed := true, parent := some 1 }, { requireChild := true },
               { takesValue := true, valueClasses := [['n','a','m','e','C','l','a','s','s']], parent := some 3 },
               { topLevelTagGroup := true, unique := true }, { requireChild := true },
               { takesValue := true, parent := some 6 }, { requireChild := true, tagGroup := true },
               { takesValue := true, parent := some 8 }, { requireChild := true, topLevelTagGroup := true },
               { takesValue := true, parent := some 10 }],
    mods := [], unitClasses := #[], modern := true, cd := {} }

/-- `env.vocab.table`, evaluated -/
def table : Table :=
  [([['d','e','f','i','n','i','t','i','o','n'], ['#']], 11), ([['d','e','f','i','n','i','t','i','o','n']], 10),
   ([['d','e','f','-','e','x','p','a','n','d'], ['#']], 9), ([['d','e','f','-','e','x','p','a','n','d']], 8),
   ([['d','e','f'], ['#']], 7), ([['d','e','f']], 6), ([['e','v','e','n','t','-','c','o','n','t','e','x','t']], 5),
   ([['l','a','b','e','l'], ['#']], 4), ([['l','a','b','e','l']], 3), ([['o','b','j','e','c','t']], 2),
   ([['i','t','e','m'], ['o','b','j','e','c','t']], 2), ([['i','t','e','m']], 1), ([['r','e','d']], 0)]

theorem register_names : register fold (names.map splitSlash) 0 [] [] = (table, []) := by decide +kernel

/-- The examples that resolve a tag rewrite with this before they evaluate, so that the lookup table is built
here once and not in each of them. -/
theorem env_eq : env = { env with vocab := ⟨(names.map splitSlash).toArray, table, []⟩ } := by
  have h : env.vocab = ⟨(names.map splitSlash).toArray, table, []⟩ := by
    show Vocab.build fold (names.map splitSlash) = _
    rw [Vocab.build, register_names]
  rw [← h]

def red : Str := ['R','e','d']
def conf : Str := ['R','e','d',',',' ','(','I','t','e','m','/','X','y',',',' ','L','a','b','e','l','/','a','b',')']

theorem conf_no_error : errors (validate env false conf) = [] := by
  rw [env_eq]
  decide +kernel

/-- a conforming annotation exists: nested, with an extension and a value, and no error is reported -/
example : errors (validate env false conf) = [] := conf_no_error
/-- … and it satisfies the spelled-out part of `Clean` -/
example : (∀ c ∈ conf, badChar env false c = false) ∧ Paren.mismatch conf = false ∧ delimIssues env.cd conf = [] :=
  have h := no_error_implies_clean _ _ _ conf_no_error
  ⟨h.chars, h.parens, by decide +kernel⟩
example : Clean env false red := by
  apply no_error_implies_clean
  rw [env_eq]
  decide +kernel
/-- a nested annotation with an extension and a value satisfies every rule predicate … -/
example : Clean env false conf := no_error_implies_clean _ _ _ conf_no_error
/-- … `n/a` does too (its tag-level fields are void), and an unknown tag does not -/
example : Clean env false ['n','/','a'] := by
  apply no_error_implies_clean
  rw [env_eq]
  decide +kernel

theorem unknown_tag_reported :
    Spec.codeOf .unknownTag ∈ codes (errors (validate env false ['R','e','d',',','Z','z'])) := by
  rw [env_eq]
  decide +kernel

example : ¬ Clean env false ['R','e','d',',','Z','z'] := by
  intro h
  have hz := unknown_tag_reported
  rw [valid_no_error env false _ h] at hz
  cases hz

/-- each injection kind fires on a concrete text (the hypotheses of the `injected_k` theorems are satisfiable) -/
example : Spec.codeOf .unknownTag ∈ codes (errors (validate env false ['R','e','d',',','Z','z'])) := unknown_tag_reported
example : Spec.codeOf .forbiddenExtension ∈ codes (errors (validate env false ['R','e','d','/','Z','z'])) := by
  rw [env_eq]
  decide +kernel
example : Spec.codeOf .forbiddenExtension ∈ codes (errors (validate env false ['I','t','e','m','/','Z','/','R','e','d'])) := by
  rw [env_eq]
  decide +kernel
example : Spec.codeOf .missingRequiredChild ∈ codes (errors (validate env false ['L','a','b','e','l'])) := by
  rw [env_eq]
  decide +kernel
example : Spec.codeOf .strayPlaceholder ∈ codes (errors (validate env false ['L','a','b','e','l','/','#'])) := by
  rw [env_eq]
  decide +kernel
example : errors (validate env true ['L','a','b','e','l','/','#']) = [] := by
  rw [env_eq]
  decide +kernel
example : Spec.codeOf .unbalanced ∈ codes (errors (validate env false ['(','R','e','d'])) := by decide +kernel
example : Spec.codeOf .emptyDelimiter ∈ codes (errors (validate env false ['R','e','d',',',','])) := by decide +kernel
example : Spec.codeOf .emptyGroup ∈ codes (errors (validate env false ['R','e','d',',','(',')'])) := by
  rw [env_eq]
  decide +kernel
example : Spec.codeOf .forbiddenCharacter ∈ codes (errors (validate env false ['R','e','d','['])) := by decide +kernel
example : Spec.codeOf .repeatedTag ∈ codes (errors (validate env false ['R','e','d',',','r','e','d'])) := by
  rw [env_eq]
  decide +kernel
example : Spec.codeOf .repeatedGroup ∈ codes (errors (validate env false ['(','R','e','d',')',',','(','R','e','d',')'])) := by
  rw [env_eq]
  decide +kernel
example : Spec.codeOf .misplacedTopLevel ∈ codes (errors (validate env false
    ['E','v','e','n','t','-','c','o','n','t','e','x','t'])) := by
  rw [env_eq]
  decide +kernel
example : Spec.codeOf .duplicatedUnique ∈ codes (errors (validate env false
    ['(','E','v','e','n','t','-','c','o','n','t','e','x','t',',','R','e','d',')',',',
     '(','E','v','e','n','t','-','c','o','n','t','e','x','t',',','I','t','e','m',')'])) := by
  rw [env_eq]
  decide +kernel
example : Spec.codeOf .undeclaredDef ∈ codes (errors (validate env false ['D','e','f','/','A'])) := by
  rw [env_eq]
  decide +kernel
example : (¬ Spec.codeOf .badValue ∈ codes (errors (validate env false ['L','a','b','e','l','/','a','$']))) ∧
    Spec.codeOf .forbiddenCharacter ∈ codes (errors (validate env false ['L','a','b','e','l','/','a','$'])) := by
  rw [env_eq]
  decide +kernel
/-- the empty-duplicate crash of the unchanged duplicate walk is part of the model -/
example : raises env false ['(',')',',','(',')'] = true := by
  rw [env_eq]
  decide +kernel

def pContent : Str := ['L','a','b','e','l','/','a','a','a','a','#']
/-- definitions `P/#` ↦ `(Label/aaaa#)` and `A` ↦ `(Red)` -/
def envD : Env :=
  { env with defs := [⟨['p'], true, resolveList env pContent (Tree.construct pContent)⟩,
                      ⟨['a'], false, resolveList env red (Tree.construct red)⟩] }
def envDfixed : Env := { envD with var := { defCharRelocate := true } }

def outOfTag (i : Issue) : Bool :=
  match i.span, i.sub with
  | some (s, e), some (_, b) => decide (e - s < b)
  | _, _ => false

/-- **Counter-example on the unchanged code** (`_check_value_class` with `report_as`): the character error of
the value of `Def/P/x$` is reported with an index pair beyond the 8 characters of the tag (real code: 29–30 with
`Label/aaaaaaaaaaaaaaaaaaaaaaaa#`); with `_relocate_errors` every pair is inside. -/
theorem def_value_index_counterexample :
    (validate envD false ['D','e','f','/','P','/','x','$']).any outOfTag = true ∧
    (validate envDfixed false ['D','e','f','/','P','/','x','$']).any outOfTag = false ∧
    Spec.codeOf .forbiddenCharacter ∈ codes (errors (validate envDfixed false ['D','e','f','/','P','/','x','$'])) := by
  rw [envDfixed, envD, env_eq]
  decide +kernel

/-- the hypothesis of `issue_indices_in_tag` is satisfiable -/
example : LookupStable env conf := by
  rw [LookupStable, env_eq]
  decide +kernel
example : LookupStable envD ['(','D','e','f','-','e','x','p','a','n','d','/','A',',','(','R','e','d',')',')'] := by
  rw [LookupStable, envD, env_eq]
  decide +kernel

theorem defs_no_error : errors (validate envD false
    ['(','D','e','f','-','e','x','p','a','n','d','/','A',',','(','R','e','d',')',')',',','D','e','f','/','P','/','x']) = [] := by
  rw [envD, env_eq]
  decide +kernel

/-- correct use of declared definitions satisfies `Clean` (so the iff is not vacuous with a dictionary) -/
example : Clean envD false ['(','D','e','f','-','e','x','p','a','n','d','/','A',',','(','R','e','d',')',')',',','D','e','f','/','P','/','x'] :=
  no_error_implies_clean _ _ _ defs_no_error

/-- correct use of declared definitions reports no error; the Def injection kinds fire -/
example : errors (validate envD false
    ['(','D','e','f','-','e','x','p','a','n','d','/','A',',','(','R','e','d',')',')',',','D','e','f','/','P','/','x']) = [] :=
  defs_no_error
example : Spec.codeOf .wrongDefValue ∈ codes (errors (validate envD false ['D','e','f','/','A','/','3'])) := by
  rw [envD, env_eq]
  decide +kernel
example : Spec.codeOf .wrongDefValue ∈ codes (errors (validate envD false ['D','e','f','/','P'])) := by
  rw [envD, env_eq]
  decide +kernel
example : Spec.codeOf .alteredDefExpand ∈ codes (errors (validate envD false
    ['(','D','e','f','-','e','x','p','a','n','d','/','A',',','(','I','t','e','m',')',')'])) := by
  rw [envD, env_eq]
  decide +kernel
example : Spec.codeOf .undeclaredDef ∈ codes (errors (validate envD false ['D','e','f','/','Z'])) := by
  rw [envD, env_eq]
  decide +kernel

/-- a copy of the definition's inner group outside the definition: same member order / other order -/
def copySame : Str := ['(','R','e','d',',','(','L','a','b','e','l','/','#',',','I','t','e','m',')',')',',','(','D','e','f','i','n','i','t','i','o','n','/','N','/','#',',','(','L','a','b','e','l','/','#',',','I','t','e','m',')',')']
def copySwapped : Str := ['(','R','e','d',',','(','I','t','e','m',',','L','a','b','e','l','/','#',')',')',',','(','D','e','f','i','n','i','t','i','o','n','/','N','/','#',',','(','L','a','b','e','l','/','#',',','I','t','e','m',')',')']

/-- `is_definition` of every group, in `get_all_groups` order (the string, the outer group, the copy, the
Definition group, its inner group) -/
def defFlags (text : Str) : List Bool :=
  (allGroups text.length (parse env text).root1).map (isDefGroup env (parse env text).root1)
def defFlagsOld (text : Str) : List Bool :=
  (allGroups text.length (parse env text).root1).map (isDefGroupOld env (parse env text).root1)

/-- **Counter-example for the structural test** (`group in all_definition_groups`, before fix 5440313): whether the
copy outside the definition was excused depended on the order of its members; the positional test excuses it in
neither spelling, and both spellings report the stray placeholder. -/
theorem is_definition_structural_counterexample :
    defFlagsOld copySame = [false, false, true, true, true] ∧
    defFlagsOld copySwapped = [false, false, false, true, true] ∧
    defFlags copySame = [false, false, false, true, true] ∧
    defFlags copySwapped = [false, false, false, true, true] ∧
    Spec.codeOf .strayPlaceholder ∈ codes (errors (validate env false copySame)) ∧
    Spec.codeOf .strayPlaceholder ∈ codes (errors (validate env false copySwapped)) := by
  decide +kernel

/-! #### a schema loaded under a namespace: the capitalisation rule reads the tag name without its prefix -/

def envNs : Env := { env with ns := ['t','l',':'] }

example : (validate envNs false ['t','l',':','r','e','d']).map (·.kind) = [Kind.style] := by
  rw [envNs, env_eq]
  decide +kernel
example : validate envNs false ['t','l',':','R','e','d'] = [] := by
  rw [envNs, env_eq]
  decide +kernel
example : (validate envNs false ['t','l',':','I','t','e','m','/','X','q']).map (·.kind) = [Kind.tagExtended] := by
  rw [envNs, env_eq]
  decide +kernel
example : (validate envNs false ['T','l',':','r','e','d']).map (·.kind) = [Kind.libraryUnmatched] := by
  rw [envNs, env_eq]
  decide +kernel
/-- the name after the prefix is what is inspected: `styleIssues` of a tag whose base is `tl:9x` is silent
(`"9x".capitalize() == "9x"`), although `"tl:9x"` as a whole is not capitalised -/
example : styleIssues ⟨(0, 5), ['t','l',':','9','x'], ['t','l',':'], none, []⟩ = [] := by decide

end HedVerif.C01.Tiny
