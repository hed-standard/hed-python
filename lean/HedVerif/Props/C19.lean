/-
C19 — The schema cache never serves or keeps a torn schema file.

Theorems about `Cache.safe` (the repaired protocol) for ALL schedules: any list of `step p` / `crash p` actions
over any set of processes, from the empty cache directory.  Proof: an invariant preserved by every action
(clauses about the directory and, per process, an assertion indexed by its control state, `atPc`), induction over
the schedule.  Counter-examples for `Cache.current` (the code before the repair) by `decide` on concrete schedules.
-/
import HedVerif.Model.Cache

namespace HedVerif.C19
open HedVerif.Cache

/-! ### rewriting lemmas for the model functions at `Proto.safe` -/

@[simp] theorem setP_files (s : St) (p : Nat) (pr : Proc) : (s.setP p pr).files = s.files := rfl
@[simp] theorem setP_holder (s : St) (p : Nat) (pr : Proc) : (s.setP p pr).holder = s.holder := rfl
@[simp] theorem setP_ts (s : St) (p : Nat) (pr : Proc) : (s.setP p pr).ts = s.ts := rfl
@[simp] theorem setP_lockFile (s : St) (p : Nat) (pr : Proc) : (s.setP p pr).lockFile = s.lockFile := rfl
@[simp] theorem setP_dirty (s : St) (p : Nat) (pr : Proc) : (s.setP p pr).dirty = s.dirty := rfl
@[simp] theorem setP_procs_same (s : St) (p : Nat) (pr : Proc) : (s.setP p pr).procs p = pr := by
  simp [St.setP]
@[simp] theorem setP_procs_ne (s : St) {p q : Nat} (pr : Proc) (h : q ≠ p) : (s.setP p pr).procs q = s.procs q := by
  simp [St.setP, h]

@[simp] theorem target_safe (k : Kind) (p i : Nat) : target .safe k p i = .tmp p i := by
  cases k <;> rfl

@[simp] theorem afterCopy_safe (c : Cfg) (k : Kind) (i : Nat) : afterCopy c .safe k i = .close i := by
  cases k <;> rfl

@[simp] theorem afterRename_safe (c : Cfg) (k : Kind) (i : Nat) :
    afterRename c .safe k i = loopPc c k (i + 1) := rfl

@[simp] theorem heldBy_safe (s : St) (pr : Proc) : heldBy .safe s pr = s.holder := rfl

@[simp] theorem takeLock_safe (p : Nat) (s : St) (pr : Proc) :
    takeLock .safe p s pr = { s with holder := some p } := rfl

@[simp] theorem dropLock_safe (p : Nat) (s : St) (pr : Proc) :
    dropLock .safe p s pr = { s with holder := if s.holder = some p then none else s.holder } := rfl

@[simp] theorem seen_safe (s : St) (v : Nat) : seen .safe s v = (s.files (.final v)).isSome := by
  simp [seen]

theorem loopPc_cases (c : Cfg) (k : Kind) (i : Nat) :
    loopPc c k i = .pick i ∨ loopPc c k i = .truncTs ∨ loopPc c k i = .unlock := by
  unfold loopPc
  split
  · left; rfl
  · cases k <;> simp

theorem loopPc_ne (c : Cfg) (k : Kind) (i : Nat) (pc : Pc)
    (h : (∀ j, pc ≠ .pick j) ∧ pc ≠ .truncTs ∧ pc ≠ .unlock) : loopPc c k i ≠ pc := by
  rcases loopPc_cases c k i with e | e | e <;> rw [e]
  · exact (h.1 i).symm
  · exact h.2.1.symm
  · exact h.2.2.symm

@[simp] theorem loopPc_read (c : Cfg) (k : Kind) (i : Nat) : (loopPc c k i = .read) = False :=
  eq_false (loopPc_ne c k i _ (by simp))
@[simp] theorem loopPc_list1 (c : Cfg) (k : Kind) (i : Nat) : (loopPc c k i = .list1) = False :=
  eq_false (loopPc_ne c k i _ (by simp))
@[simp] theorem loopPc_list2 (c : Cfg) (k : Kind) (i : Nat) : (loopPc c k i = .list2) = False :=
  eq_false (loopPc_ne c k i _ (by simp))
@[simp] theorem loopPc_writeTs' (c : Cfg) (k : Kind) (i : Nat) : (loopPc c k i = .writeTs) = False :=
  eq_false (loopPc_ne c k i _ (by simp))
@[simp] theorem loopPc_append (c : Cfg) (k : Kind) (i a b : Nat) : (loopPc c k i = .append a b) = False :=
  eq_false (loopPc_ne c k i _ (by simp))
@[simp] theorem loopPc_rename (c : Cfg) (k : Kind) (i a : Nat) : (loopPc c k i = .rename a) = False :=
  eq_false (loopPc_ne c k i _ (by simp))
@[simp] theorem loopPc_close (c : Cfg) (k : Kind) (i a : Nat) : (loopPc c k i = .close a) = False :=
  eq_false (loopPc_ne c k i _ (by simp))
@[simp] theorem loopPc_create (c : Cfg) (k : Kind) (i a : Nat) : (loopPc c k i = .create a) = False :=
  eq_false (loopPc_ne c k i _ (by simp))
@[simp] theorem loopPc_mktemp (c : Cfg) (k : Kind) (i a : Nat) : (loopPc c k i = .mktemp a) = False :=
  eq_false (loopPc_ne c k i _ (by simp))

theorem leave_cases (pr : Proc) :
    (leave pr = { pr with pc := .list2 } ∧ ∃ v, pr.kind = .load v) ∨
    (leave pr = { pr with status := .finished } ∧ ∀ v, pr.kind ≠ .load v) := by
  unfold leave
  cases h : pr.kind <;> simp

theorem inRegion_iff (pr : Proc) : pr.inRegion = true ↔ pr.status = .running ∧ pr.pc.locked = true := by
  simp [Proc.inRegion]

/-- The steps of the safe protocol as a relation that contains `stepPc` (`stepPc_step`; the converse does not
hold: of each branch condition only what the invariant uses is kept).  `found` / `missing` are the two results of
a listing, `giveUp` a `CacheException` before the locked region, `pick` the loop head with all its exits.
`Proc.alias`, `St.pathHolder`, `St.nprocs` do not occur: only `Proto.pathlock` and `Proto.unanchored` read them. -/
inductive Step (c : Cfg) (p : Nat) (s : St) (pr : Proc) : Pc → St → Prop
  | list1 (hd : s.dirty = false) : Step c p s pr .list1 (s.setP p { pr with pc := .readTs })
  | found (pc : Pc) (hpc : pc = .list1 ∨ pc = .list2) (hf : (s.files (.final (ver pr.kind))).isSome = true) :
      Step c p s pr pc (s.setP p { pr with saw := true, pc := .read })
  | missing (pc : Pc) (hpc : pc = .list1 ∨ pc = .list2) :
      Step c p s pr pc (s.setP p { pr with got := some (some (full c (ver pr.kind))), status := .finished })
  | read : Step c p s pr .read (s.setP p { pr with got := some (s.files (.final (ver pr.kind))), status := .finished })
  | giveUp (pc : Pc) (e : CErr) (hpc : pc = .readTs ∨ pc = .tryLock 0) :
      Step c p s pr pc (s.setP p (leave { pr with err := some e }))
  | readTs : Step c p s pr .readTs (s.setP p { pr with pc := .openLock })
  | openLock :
      Step c p s pr .openLock ({ s with lockFile := true, dirty := true }.setP p { pr with pc := .tryLock c.retries })
  | lock (k : Nat) (hh : s.holder = none) :
      Step c p s pr (.tryLock k) ({ s with holder := some p }.setP p { pr with pc := loopPc c pr.kind 0 })
  | retry (k : Nat) : Step c p s pr (.tryLock (k + 1)) (s.setP p { pr with pc := .tryLock k })
  | pick (i : Nat) (pc' : Pc)
      (hpc' : pc' = .create i ∨ pc' = .mktemp i ∨
        (pc' = loopPc c pr.kind (i + 1) ∧ (s.files (.final i)).isSome = true)) :
      Step c p s pr (.pick i) (s.setP p { pr with pc := pc' })
  | mktemp (i : Nat) :
      Step c p s pr (.mktemp i)
        ({ s with files := upd s.files (.tmp p i) (some ⟨i, []⟩), dirty := true }.setP p { pr with pc := .create i })
  | create (i : Nat) :
      Step c p s pr (.create i)
        ({ s with files := upd s.files (.tmp p i) (some ⟨i, []⟩), dirty := true }.setP p
          { pr with pc := if c.chunks = 0 then .close i else .append i 0 })
  | append (i j : Nat) :
      Step c p s pr (.append i j)
        ((writeTo s (.tmp p i) j).setP p { pr with pc := if j + 1 < c.chunks then .append i (j + 1) else .close i })
  | close (i : Nat) : Step c p s pr (.close i) (s.setP p { pr with pc := .rename i })
  | rename (i : Nat) (ct : Content) (hf : s.files (.tmp p i) = some ct) :
      Step c p s pr (.rename i)
        ({ s with files := upd (upd s.files (.final i) (some ct)) (.tmp p i) none }.setP p
          { pr with pc := loopPc c pr.kind (i + 1) })
  | renameNone (i : Nat) (hf : s.files (.tmp p i) = none) :
      Step c p s pr (.rename i) (s.setP p { pr with pc := loopPc c pr.kind (i + 1) })
  | truncTs :
      Step c p s pr .truncTs ({ s with ts := none, tsTorn := true, dirty := true }.setP p { pr with pc := .writeTs })
  | writeTs :
      Step c p s pr .writeTs
        ({ s with ts := some pr.now, tsTorn := false, dirty := true }.setP p { pr with pc := .unlock })
  | unlock :
      Step c p s pr .unlock ({ s with holder := if s.holder = some p then none else s.holder }.setP p (leave pr))

theorem stepPc_step (c : Cfg) (p : Nat) (s : St) (pc : Pc) (hpc : (s.procs p).pc = pc) :
    Step c p s (s.procs p) pc (stepPc c .safe p s (s.procs p)) := by
  have hlisted : pc = .list1 ∨ pc = .list2 → Step c p s (s.procs p) pc (listed c .safe p s) := by
    intro h
    simp only [listed, seen_safe]
    split
    · next hf => exact .found pc h hf
    · exact .missing pc h
  unfold stepPc
  split <;> rename_i h <;> obtain rfl := hpc.symm.trans h
  · split
    · exact hlisted (.inl rfl)
    · next hd => exact .list1 (Bool.eq_false_iff.2 hd)
  · exact hlisted (.inr rfl)
  · exact .read
  · dsimp only
    split
    · exact .giveUp _ _ (.inl rfl)
    · exact .readTs
  · exact .openLock
  · rw [heldBy_safe]
    split
    · next hh => exact .lock _ hh
    · split
      · exact .giveUp _ _ (.inr rfl)
      · exact .retry _
  · split <;> split
    · next hfull => exact .pick _ _ (.inr (.inr ⟨rfl, by rw [hfull]; rfl⟩))
    · exact .pick _ _ (.inl rfl)
    · next hsome => exact .pick _ _ (.inr (.inr ⟨rfl, hsome⟩))
    · exact .pick _ _ (.inr (.inl rfl))
  · exact .mktemp _
  · rw [target_safe, afterCopy_safe]
    exact .create _
  · rw [target_safe, afterCopy_safe, if_neg (fun h => nomatch h.1)]
    exact .append _ _
  · exact .close _
  · rw [afterRename_safe]
    split
    · next hf => exact .rename _ _ hf
    · next hf => exact .renameNone _ hf
  · exact .truncTs
  · exact .writeTs
  · exact .unlock

theorem crash_running (p : Nat) (s : St) (hr : (s.procs p).status = .running) :
    crash p s =
      { s with holder := if s.holder = some p then none else s.holder,
               pathHolder := fun a => if s.pathHolder a = some p then none else s.pathHolder a }.setP p
        { s.procs p with status := .crashed } := by
  simp only [crash, hr]

theorem step_not_running (c : Cfg) (proto : Proto) (p : Nat) (s : St) (h : (s.procs p).status ≠ .running) :
    step c proto p s = s := by
  unfold step
  split
  · next hr => exact absurd hr h
  · rfl

theorem runSt_induct {c : Cfg} {P : St → Prop}
    (hstep : ∀ p s s', P s → (s.procs p).status = .running → Step c p s (s.procs p) (s.procs p).pc s' → P s')
    (hcrash : ∀ p s, P s → (s.procs p).status = .running → P (crash p s))
    (sched : List Action) (s : St) (h : P s) : P (runSt c .safe sched s) := by
  induction sched generalizing s with
  | nil => exact h
  | cons a as ih =>
    refine ih _ ?_
    cases a with
    | step p =>
      show P (step c .safe p s)
      unfold step
      split
      · next hr => exact hstep p s _ h hr (stepPc_step c p s _ rfl)
      · exact h
    | crash p =>
      show P (crash p s)
      unfold crash
      split
      · next hr => exact crash_running p s hr ▸ hcrash p s h hr
      · exact h

theorem upd_forall {β : Type} {f : Nat → β} {p : Nat} {x : β} {L : Nat → β → Prop} (hnew : L p x)
    (hold : ∀ q, q ≠ p → L q (f q)) (q : Nat) : L q (upd f p x q) := by
  by_cases e : q = p
  · rw [e, upd_same]
    exact hnew
  · rw [upd_ne _ _ e]
    exact hold q e

/-- the processes of `s'` have the kinds and clocks they have in `s` -/
def SameProcs (s s' : St) : Prop := ∀ q, (s'.procs q).kind = (s.procs q).kind ∧ (s'.procs q).now = (s.procs q).now

theorem setP_static {s t : St} {p : Nat} {pr' : Proc} (ht : t.procs = s.procs)
    (hid : pr'.kind = (s.procs p).kind ∧ pr'.now = (s.procs p).now) : SameProcs s (t.setP p pr') := by
  intro q
  show (upd t.procs p pr' q).kind = _ ∧ (upd t.procs p pr' q).now = _
  rw [ht]
  exact upd_forall (L := fun q (pr : Proc) => pr.kind = (s.procs q).kind ∧ pr.now = (s.procs q).now) hid
    (fun _ _ => ⟨rfl, rfl⟩) q

theorem Step.static {c : Cfg} {p : Nat} {s s' : St} {pc : Pc} (hst : Step c p s (s.procs p) pc s') :
    SameProcs s s' := by
  cases hst <;> refine setP_static rfl ?_
  case giveUp | unlock =>
    unfold leave
    split <;> exact ⟨rfl, rfl⟩
  all_goals exact ⟨rfl, rfl⟩

/-! ### the invariant of the safe protocol -/

def present (s : St) (n : Nat) : Prop := ∀ f, f < n → (s.files (.final f)).isSome = true

/-- the timestamp file holds a number or is in the middle of being rewritten (or was left truncated) -/
def tsOk (s : St) : Prop := s.ts.isSome = true ∨ s.tsTorn = true

/-- what a running process of kind `k` can rely on at control state `pc` -/
def atPc (c : Cfg) (s : St) (p : Nat) (k : Kind) : Pc → Prop
  /- only a loader lists the directory -/
  | .list1 | .list2 => ∃ v, k = .load v
  /- only a loader or a direct reader reads a cache file; a loader has seen the file in a listing -/
  | .read => ((∃ v, k = .load v) ∨ ∃ v, k = .peek v) ∧ ∀ v, k = .load v → (s.files (.final v)).isSome = true
  /- the copy loop at file `i` has left files `0 … i-1` in place -/
  | .pick i | .mktemp i | .create i => present s i
  /- in the middle of a copy the temp file holds exactly the chunks written so far -/
  | .append i j => present s i ∧ s.files (.tmp p i) = some ⟨i, List.replicate j true⟩ ∧ j < c.chunks
  /- what is about to be renamed is complete -/
  | .close i | .rename i => present s i ∧ s.files (.tmp p i) = some (full c i)
  /- only a refresh writes the timestamp -/
  | .truncTs | .writeTs => present s (total c k) ∧ ∃ m, k = .refresh m
  /- a refresh at the end of its locked region has rewritten the timestamp file -/
  | .unlock => present s (total c k) ∧ ((∃ m, k = .refresh m) → tsOk s)
  | _ => True

/-- the clauses about one process `p` with record `pr` -/
structure ProcInv (c : Cfg) (s : St) (p : Nat) (pr : Proc) : Prop where
  /-- a process inside the locked region holds the flock -/
  lock : pr.inRegion = true → s.holder = some p
  run : pr.status = .running → atPc c s p pr.kind pr.pc
  /-- whatever a loader or direct reader obtained is the bundled content of the version it asked for -/
  got : ∀ ct, pr.got = some (some ct) → ct = full c (ver pr.kind)
  /-- a finished loader has read some content (never "not found") -/
  fin : ∀ v, pr.kind = .load v → pr.status = .finished → ∃ ct, pr.got = some (some ct)
  /-- a populate or refresh that ended normally has left its files, and a refresh also a timestamp, unless
  somebody is rewriting it right now or died doing so -/
  done : pr.status = .finished → pr.err = none → (pr.kind = .populate ∨ ∃ m, pr.kind = .refresh m) →
    present s (total c pr.kind) ∧ ((∃ m, pr.kind = .refresh m) → tsOk s)

structure Inv (c : Cfg) (s : St) : Prop where
  /-- every file under a name matching the cache pattern is the complete bundled file -/
  torn : ∀ f ct, s.files (.final f) = some ct → ct = full c f
  /-- `dirty = false` means `os.listdir` is empty (the first listing of a loader branches on the flag) -/
  dirty : s.dirty = false → (∀ n, s.files n = none) ∧ s.lockFile = false ∧ s.ts = none ∧ s.tsTorn = false
  /-- the timestamp is the clock of some refresh process (what `refresh_skipped_after_completed` compares with) -/
  tsFrom : ∀ t, s.ts = some t → ∃ q m, (s.procs q).kind = .refresh m ∧ (s.procs q).now = t
  proc : ∀ p, ProcInv c s p (s.procs p)

theorem Inv.final_complete {c : Cfg} {s : St} (h : Inv c s) {f : Nat}
    (hf : (s.files (.final f)).isSome = true) : s.files (.final f) = some (full c f) := by
  obtain ⟨ct, hct⟩ := Option.isSome_iff_exists.1 hf
  rw [hct, h.torn f ct hct]

theorem Inv.rename_ready {c : Cfg} {s : St} (h : Inv c s) {p i : Nat} (hr : (s.procs p).status = .running)
    (hpc : (s.procs p).pc = .rename i) : s.files (.tmp p i) = some (full c i) :=
  (hpc ▸ (h.proc p).run hr : atPc c s p _ (.rename i)).2

theorem Inv.dirty_of_file {c : Cfg} {s : St} (h : Inv c s) {n : Name} {x : Content} (hf : s.files n = some x) :
    s.dirty = true :=
  (Bool.not_eq_false _).mp fun e => nomatch ((h.dirty e).1 n).symm.trans hf

theorem present_mono {s s' : St}
    (hmono : ∀ f, (s.files (.final f)).isSome = true → (s'.files (.final f)).isSome = true) (n : Nat)
    (h : present s n) : present s' n :=
  fun f hf => hmono f (h f hf)

theorem present_succ {s : St} {i : Nat} (hi : present s i) (h : (s.files (.final i)).isSome = true) :
    present s (i + 1) :=
  fun f hf => (Nat.lt_succ_iff_lt_or_eq.mp hf).elim (hi f) (· ▸ h)

theorem atPc_loopPc {c : Cfg} {s : St} {p : Nat} {k : Kind} {j : Nat} (hj : present s j) :
    atPc c s p k (loopPc c k j) := by
  have ht : ¬ j < total c k → present s (total c k) := fun hge f hf => hj f (by omega)
  unfold loopPc
  split
  · exact hj
  · next hge =>
    cases k with
    | refresh m => exact ⟨ht hge, m, rfl⟩
    | _ => exact ⟨ht hge, nofun⟩

theorem not_copier {k : Kind} (hk : (∃ v, k = .load v) ∨ ∃ v, k = .peek v) :
    ¬ (k = .populate ∨ ∃ m, k = .refresh m) := by
  rcases hk with ⟨v, rfl⟩ | ⟨v, rfl⟩ <;> exact fun h => by rcases h with h | ⟨m, h⟩ <;> cases h

/-- `ProcInv … q pr` reads the lock holder, `q`'s temp files, which final names exist and whether the timestamp
is in order (the last two only positively) -/
theorem ProcInv.frame {c : Cfg} {s s' : St} {q : Nat} {pr : Proc} (h : ProcInv c s q pr)
    (hhold : s.holder = some q → s'.holder = some q)
    (htmp : ∀ i, s'.files (.tmp q i) = s.files (.tmp q i))
    (hmono : ∀ f, (s.files (.final f)).isSome = true → (s'.files (.final f)).isSome = true)
    (hts : tsOk s → tsOk s') : ProcInv c s' q pr := by
  have hm := present_mono hmono
  refine ⟨fun hin => hhold (h.lock hin), fun hr => ?_, h.got, h.fin, fun hf he hk => ?_⟩
  · have ha := h.run hr
    cases hpc : pr.pc <;> rw [hpc] at ha
    case read => exact ⟨ha.1, fun v hv => hmono v (ha.2 v hv)⟩
    case pick | mktemp | create => exact hm _ ha
    case append => exact ⟨hm _ ha.1, (htmp _).trans ha.2.1, ha.2.2⟩
    case close | rename => exact ⟨hm _ ha.1, (htmp _).trans ha.2⟩
    case truncTs | writeTs => exact ⟨hm _ ha.1, ha.2⟩
    case unlock => exact ⟨hm _ ha.1, fun hk => hts (ha.2 hk)⟩
    all_goals exact ha
  · obtain ⟨h1, h2⟩ := h.done hf he hk
    exact ⟨hm _ h1, fun hk => hts (h2 hk)⟩

theorem ProcInv.move {c : Cfg} {s : St} {p : Nat} {pr : Proc} (h : ProcInv c s p pr) {s' : St} {pr' : Proc}
    (hk : pr'.kind = pr.kind) (hg : pr'.got = pr.got) (hr : pr'.status = .running)
    (hl : pr'.pc.locked = true → s'.holder = some p) (ha : atPc c s' p pr.kind pr'.pc) :
    ProcInv c s' p pr' := by
  refine ⟨fun hin => hl ((inRegion_iff _).1 hin).2, fun _ => hk ▸ ha, hk ▸ hg ▸ h.got, fun v _ hf => ?_,
    fun hf => ?_⟩ <;>
  · rw [hr] at hf
    cases hf

theorem ProcInv.stopped {c : Cfg} {s : St} {p : Nat} {pr : Proc} (hs : pr.status ≠ .running)
    (hg : ∀ ct, pr.got = some (some ct) → ct = full c (ver pr.kind))
    (hf : ∀ v, pr.kind = .load v → pr.status = .finished → ∃ ct, pr.got = some (some ct))
    (hd : pr.status = .finished → pr.err = none → (pr.kind = .populate ∨ ∃ m, pr.kind = .refresh m) →
      present s (total c pr.kind) ∧ ((∃ m, pr.kind = .refresh m) → tsOk s)) :
    ProcInv c s p pr :=
  ⟨fun hin => absurd ((inRegion_iff _).1 hin).1 hs, fun hr => absurd hr hs, hg, hf, hd⟩

/-- end of the locked region (`e` the error the process had, normally none), or a `CacheException` before it -/
theorem ProcInv.leave {c : Cfg} {s : St} {p : Nat} {pr : Proc} (h : ProcInv c s p pr) {s' : St}
    (hr : pr.status = .running) {e : Option CErr}
    (he : e = none → present s' (total c pr.kind) ∧ ((∃ m, pr.kind = .refresh m) → tsOk s')) :
    ProcInv c s' p (leave { pr with err := e }) := by
  rcases leave_cases { pr with err := e } with ⟨e', hv⟩ | ⟨e', hv⟩ <;> rw [e']
  · exact h.move rfl rfl hr nofun hv
  · exact .stopped nofun h.got (fun v hk => absurd hk (hv v)) fun _ he' _ => he he'

/-- the final names after `os.replace(tmp, final)` -/
theorem rename_final (fs : Name → Option Content) (p i f : Nat) (x : Option Content) :
    upd (upd fs (.final i) x) (.tmp p i) none (.final f) = if f = i then x else fs (.final f) :=
  (upd_ne _ none (by nofun)).trans (by simp only [upd, Name.final.injEq])

/-- frame rule: what a step of `p` must leave alone for the clauses of the other processes to survive -/
theorem inv_frame {c : Cfg} {p : Nat} {s s' : St} {pr' : Proc} (h : Inv c s)
    (key : SameProcs s s') (hp : s'.procs = upd s.procs p pr')
    (htorn : ∀ f ct, s'.files (.final f) = some ct → ct = full c f)
    (hdirty : s'.dirty = false →
      (∀ n, s'.files n = none) ∧ s'.lockFile = false ∧ s'.ts = none ∧ s'.tsTorn = false)
    (hts : ∀ t, s'.ts = some t → s.ts = some t ∨ (t = (s.procs p).now ∧ ∃ m, (s.procs p).kind = .refresh m))
    (htsOk : tsOk s → tsOk s')
    (htmp : ∀ q i, q ≠ p → s'.files (.tmp q i) = s.files (.tmp q i))
    (hmono : ∀ f, (s.files (.final f)).isSome = true → (s'.files (.final f)).isSome = true)
    (hhold : ∀ q, q ≠ p → s.holder = some q → s'.holder = some q)
    (hnew : ProcInv c s' p pr') : Inv c s' := by
  refine ⟨htorn, hdirty, fun t ht => ?_, fun q => ?_⟩
  · rcases hts t ht with e | ⟨e, m, hm⟩
    · obtain ⟨q, m, hq, hq'⟩ := h.tsFrom t e
      exact ⟨q, m, (key q).1.trans hq, (key q).2.trans hq'⟩
    · exact ⟨p, m, (key p).1.trans hm, (key p).2.trans e.symm⟩
  · rw [hp]
    exact upd_forall hnew (fun q e => (h.proc q).frame (hhold q e) (fun i => htmp q i e) hmono htsOk) q

/-- a step that touches only locks (`pathHolder` for `crash`, which clears both kinds of lock) -/
theorem inv_locks {c : Cfg} {p : Nat} {s : St} {hd : Option Nat} {ph : Nat → Option Nat} {pr' : Proc}
    (h : Inv c s) (key : SameProcs s ({ s with holder := hd, pathHolder := ph }.setP p pr'))
    (hhold : ∀ q, q ≠ p → s.holder = some q → hd = some q)
    (hnew : ProcInv c ({ s with holder := hd, pathHolder := ph }.setP p pr') p pr') :
    Inv c ({ s with holder := hd, pathHolder := ph }.setP p pr') :=
  inv_frame h key rfl h.torn h.dirty (fun _ => .inl) id (fun _ _ _ => rfl) (fun _ => id) hhold hnew

/-- a step that leaves something in the directory, changing at most `p`'s own temp files -/
theorem inv_files {c : Cfg} {p : Nat} {s : St} {fs : Name → Option Content} {lf d : Bool} {pr' : Proc}
    (h : Inv c s) (key : SameProcs s ({ s with files := fs, lockFile := lf, dirty := d }.setP p pr'))
    (hd : d = true) (hfs : ∀ n, (∀ i, n ≠ .tmp p i) → fs n = s.files n)
    (hnew : ProcInv c ({ s with files := fs, lockFile := lf, dirty := d }.setP p pr') p pr') :
    Inv c ({ s with files := fs, lockFile := lf, dirty := d }.setP p pr') := by
  have hfin : ∀ f, fs (.final f) = s.files (.final f) := fun f => hfs _ nofun
  refine inv_frame h key rfl (fun f ct e => h.torn f ct ((hfin f).symm.trans e)) (fun e => ?_) (fun _ => .inl) id
    (fun q i e => hfs _ fun j ej => e (Name.tmp.inj ej).1) (fun f e => (congrArg Option.isSome (hfin f)).trans e)
    (fun _ _ => id) hnew
  rw [hd] at e
  cases e

theorem release_other {p q : Nat} {hd : Option Nat} (e : q ≠ p) (hq : hd = some q) :
    (if hd = some p then none else hd) = some q :=
  (if_neg fun e' => e (Option.some.inj (hq.symm.trans e'))).trans hq

theorem inv_init (c : Cfg) (ps : List (Kind × Nat × Nat)) : Inv c (init ps) := by
  refine ⟨nofun, fun _ => ⟨fun _ => rfl, rfl, rfl, rfl⟩, nofun, fun p => ?_⟩
  simp only [init]
  split
  · next k now a _ =>
    refine ⟨fun hin => ?_, fun _ => ?_, nofun, nofun, nofun⟩
    · cases k <;> cases hin
    · cases k
      · trivial
      · exact ⟨_, rfl⟩
      · trivial
      · exact ⟨.inr ⟨_, rfl⟩, nofun⟩
  · exact .stopped nofun nofun nofun nofun

theorem inv_crash (c : Cfg) (p : Nat) (s : St) (h : Inv c s) (hr : (s.procs p).status = .running) :
    Inv c (crash p s) := by
  rw [crash_running p s hr]
  refine inv_locks h (setP_static rfl ?_) (fun _ => release_other)
    (.stopped nofun (h.proc p).got nofun nofun)
  exact ⟨rfl, rfl⟩

theorem writeChunk_replicate (j : Nat) : writeChunk (List.replicate j true) j = List.replicate (j + 1) true := by
  simp [writeChunk, List.replicate_succ']

theorem inv_step (c : Cfg) (p : Nat) (s s' : St) (h : Inv c s) (hr : (s.procs p).status = .running)
    (hst : Step c p s (s.procs p) (s.procs p).pc s') : Inv c s' := by
  have hp := h.proc p
  have ha := hp.run hr
  have hlk : (s.procs p).pc.locked = true → s.holder = some p := fun hl => hp.lock ((inRegion_iff _).2 ⟨hr, hl⟩)
  have key := hst.static
  generalize (s.procs p).pc = pc at hst ha hlk
  have hk : pc = .list1 ∨ pc = .list2 → ∃ v, (s.procs p).kind = .load v := by
    rintro (rfl | rfl) <;> exact ha
  cases hst with
  | list1 | readTs | retry => exact inv_locks h key (fun _ _ => id) (hp.move rfl rfl hr nofun trivial)
  | found _ hpc hf =>
    refine inv_locks h key (fun _ _ => id) (hp.move rfl rfl hr nofun ⟨.inl (hk hpc), fun v hv => ?_⟩)
    rw [hv] at hf
    exact hf
  | missing _ hpc =>
    refine inv_locks h key (fun _ _ => id) (.stopped nofun (fun ct e => ?_) (fun _ _ _ => ⟨_, rfl⟩)
      fun _ _ hk' => absurd hk' (not_copier (.inl (hk hpc))))
    cases e
    rfl
  | read =>
    refine inv_locks h key (fun _ _ => id) (.stopped nofun (fun ct e => ?_) (fun v hv _ => ?_)
      fun _ _ hk' => absurd hk' (not_copier ha.1))
    · exact h.torn _ ct (Option.some.inj e)
    · obtain ⟨ct, e⟩ := Option.isSome_iff_exists.1 (ha.2 v hv)
      exact ⟨ct, by rw [← e, hv]; rfl⟩
  | giveUp => exact inv_locks h key (fun _ _ => id) (hp.leave hr nofun)
  | openLock => exact inv_files h key rfl (fun _ _ => rfl) (hp.move rfl rfl hr nofun trivial)
  | lock k hh =>
    refine inv_locks h key (fun q _ hq => ?_) (hp.move rfl rfl hr (fun _ => rfl) (atPc_loopPc (j := 0) nofun))
    rw [hh] at hq
    cases hq
  | pick i pc' hpc' =>
    refine inv_locks h key (fun _ _ => id) (hp.move rfl rfl hr (fun _ => hlk rfl) ?_)
    rcases hpc' with e | e | ⟨e, hf⟩ <;> rw [e]
    · exact ha
    · exact ha
    · exact atPc_loopPc (present_succ ha hf)
  | mktemp i =>
    exact inv_files h key rfl (fun n hn => upd_ne _ _ (hn i)) (hp.move rfl rfl hr (fun _ => hlk rfl) ha)
  | create i =>
    refine inv_files h key rfl (fun n hn => upd_ne _ _ (hn i)) (hp.move rfl rfl hr (fun _ => hlk rfl) ?_)
    show atPc c _ p _ (if c.chunks = 0 then .close i else .append i 0)
    split
    · next h0 => exact ⟨ha, (upd_same _ _ _).trans (by rw [full, h0]; rfl)⟩
    · next h0 => exact ⟨ha, upd_same _ _ _, Nat.pos_of_ne_zero h0⟩
  | append i j =>
    have hnew : (writeTo s (.tmp p i) j).files (.tmp p i) = some ⟨i, List.replicate (j + 1) true⟩ := by
      show upd s.files _ ((s.files (.tmp p i)).map _) _ = _
      rw [upd_same, ha.2.1, ← writeChunk_replicate]
      rfl
    refine inv_files h key (h.dirty_of_file ha.2.1) (fun n hn => upd_ne _ _ (hn i))
      (hp.move rfl rfl hr (fun _ => hlk rfl) ?_)
    show atPc c _ p _ (if j + 1 < c.chunks then .append i (j + 1) else .close i)
    split
    · next hj => exact ⟨ha.1, hnew, hj⟩
    · next hj =>
      have : j + 1 = c.chunks := by have := ha.2.2; omega
      exact ⟨ha.1, hnew.trans (by rw [full, this])⟩
  | close i => exact inv_locks h key (fun _ _ => id) (hp.move rfl rfl hr (fun _ => hlk rfl) ha)
  | rename i ct hf =>
    obtain rfl : full c i = ct := Option.some.inj (ha.2.symm.trans hf)
    have hmono : ∀ f, (s.files (.final f)).isSome = true →
        (upd (upd s.files (.final i) (some (full c i))) (.tmp p i) none (.final f)).isSome = true := by
      intro f hf
      rw [rename_final]
      split
      · rfl
      · exact hf
    refine inv_frame h key rfl (fun f ct hf => ?_) (fun e => ?_) (fun _ => .inl) id (fun q j e => ?_) hmono
      (fun _ _ => id) (hp.move rfl rfl hr (fun _ => hlk rfl) (atPc_loopPc (present_succ ?_ ?_)))
    · have hf := (rename_final s.files p i f _).symm.trans hf
      split at hf
      · next e => rw [e, ← Option.some.inj hf]
      · exact h.torn f ct hf
    · rw [h.dirty_of_file hf] at e
      cases e
    · exact (upd_ne _ _ (fun e' => e (Name.tmp.inj e').1)).trans (upd_ne _ _ nofun)
    · exact present_mono hmono i ha.1
    · refine (congrArg Option.isSome (rename_final s.files p i i _)).trans ?_
      rw [if_pos rfl]
      rfl
  | renameNone i hf =>
    rw [ha.2] at hf
    cases hf
  | truncTs =>
    exact inv_frame h key rfl h.torn nofun nofun (fun _ => .inr rfl) (fun _ _ _ => rfl) (fun _ => id)
      (fun _ _ => id) (hp.move rfl rfl hr (fun _ => hlk rfl) ha)
  | writeTs =>
    exact inv_frame h key rfl h.torn nofun (fun t e => .inr ⟨(Option.some.inj e).symm, ha.2⟩) (fun _ => .inl rfl)
      (fun _ _ _ => rfl) (fun _ => id) (fun _ _ => id)
      (hp.move rfl rfl hr (fun _ => hlk rfl) ⟨ha.1, fun _ => .inl rfl⟩)
  | unlock =>
    exact inv_locks h key (fun _ => release_other) (hp.leave hr fun _ => ha)

theorem reach_inv (c : Cfg) (ps : List (Kind × Nat × Nat)) (sched : List Action) :
    Inv c (runSt c .safe sched (init ps)) :=
  runSt_induct (inv_step c) (inv_crash c) sched _ (inv_init c ps)

/-- the timestamp part of `ProcInv.done` in every reachable state -/
theorem reach_inv2 (c : Cfg) (ps : List (Kind × Nat × Nat)) (sched : List Action) (p m : Nat)
    (hk : ((runSt c .safe sched (init ps)).procs p).kind = .refresh m)
    (hf : ((runSt c .safe sched (init ps)).procs p).status = .finished)
    (he : ((runSt c .safe sched (init ps)).procs p).err = none) : tsOk (runSt c .safe sched (init ps)) :=
  (((reach_inv c ps sched).proc p).done hf he (.inr ⟨m, hk⟩)).2 ⟨m, hk⟩

/-- the progress part of `ProcInv.done` in every reachable state -/
theorem reach_inv3 (c : Cfg) (ps : List (Kind × Nat × Nat)) (sched : List Action) (p : Nat)
    (hk : ((runSt c .safe sched (init ps)).procs p).kind = .populate ∨
      ∃ m, ((runSt c .safe sched (init ps)).procs p).kind = .refresh m)
    (hf : ((runSt c .safe sched (init ps)).procs p).status = .finished)
    (he : ((runSt c .safe sched (init ps)).procs p).err = none) :
    present (runSt c .safe sched (init ps)) (total c ((runSt c .safe sched (init ps)).procs p).kind) :=
  (((reach_inv c ps sched).proc p).done hf he hk).1

/-! ### the property, for `Cache.safe` -/

/-- **no_torn**: in every reachable state of every schedule (any processes, interleaving, crash points),
every file whose name matches the cache pattern is complete and equal to the bundled file. -/
theorem no_torn (c : Cfg) (ps : List (Kind × Nat × Nat)) (sched : List Action) (f : Nat) (ct : Content)
    (h : (runSt c .safe sched (init ps)).files (.final f) = some ct) : ct = full c f :=
  (reach_inv c ps sched).torn f ct h

/-- **load_ok**: every `load v` that runs to completion, in any schedule, returns the bundled content of `v`
(never "not found", never a partial file). -/
theorem load_ok (c : Cfg) (ps : List (Kind × Nat × Nat)) (sched : List Action) (p v : Nat)
    (hk : ((runSt c .safe sched (init ps)).procs p).kind = .load v)
    (hf : ((runSt c .safe sched (init ps)).procs p).status = .finished) :
    ((runSt c .safe sched (init ps)).procs p).got = some (some (full c v)) := by
  have hi := (reach_inv c ps sched).proc p
  obtain ⟨ct, hg⟩ := hi.fin v hk hf
  rw [hg, hi.got ct hg, hk]
  rfl

/-- **mutex**: no reachable state has two processes inside the locked region. -/
theorem mutex (c : Cfg) (ps : List (Kind × Nat × Nat)) (sched : List Action) (p q : Nat) (hne : p ≠ q) :
    ¬ (((runSt c .safe sched (init ps)).procs p).inRegion = true ∧
       ((runSt c .safe sched (init ps)).procs q).inRegion = true) := by
  intro ⟨hp, hq⟩
  have hi := reach_inv c ps sched
  exact hne (Option.some.inj (((hi.proc p).lock hp).symm.trans ((hi.proc q).lock hq)))

/-- the executable overlap test of the driver never fires on `Cache.safe` -/
theorem mutex_overlapUpTo (c : Cfg) (ps : List (Kind × Nat × Nat)) (sched : List Action) (n : Nat) :
    overlapUpTo n (runSt c .safe sched (init ps)) = false := by
  rw [Bool.eq_false_iff]
  intro h
  simp only [overlapUpTo, List.any_eq_true, Bool.and_eq_true, bne_iff_ne] at h
  obtain ⟨p, _, q, _, ⟨hne, hp⟩, hq⟩ := h
  exact mutex c ps sched p q hne ⟨hp, hq⟩

/-- the `dirty` flag of the model is a sound reading of "the directory listing is empty" -/
theorem dirty_sound (c : Cfg) (ps : List (Kind × Nat × Nat)) (sched : List Action)
    (h : (runSt c .safe sched (init ps)).dirty = false) :
    (∀ n, (runSt c .safe sched (init ps)).files n = none) ∧
      (runSt c .safe sched (init ps)).lockFile = false ∧ (runSt c .safe sched (init ps)).ts = none ∧
      (runSt c .safe sched (init ps)).tsTorn = false :=
  (reach_inv c ps sched).dirty h

/-- second half of the mutual-exclusion clause: a process whose last lock attempt finds the lock held takes the
`CacheException` branch; only its own record changes (error `lockTimeout`, outside the region), nothing in the
directory, the lock or the timestamp. -/
theorem lock_timeout (c : Cfg) (p q : Nat) (s : St)
    (hr : (s.procs p).status = .running) (hpc : (s.procs p).pc = .tryLock 0) (hh : s.holder = some q) :
    step c .safe p s = s.setP p (leave { s.procs p with err := some .lockTimeout }) ∧
      ((step c .safe p s).procs p).inRegion = false := by
  have e : step c .safe p s = s.setP p (leave { s.procs p with err := some .lockTimeout }) := by
    simp [step, hr, stepPc, hpc, hh]
  refine ⟨e, ?_⟩
  rw [e, setP_procs_same]
  rcases leave_cases { s.procs p with err := some .lockTimeout } with ⟨e', _⟩ | ⟨e', _⟩ <;> rw [e']
  · exact Bool.and_false _
  · rfl

/-- an attempt on a held lock never takes it: the holder is unchanged and the process stays outside -/
theorem lock_busy (c : Cfg) (p q k : Nat) (s : St)
    (hr : (s.procs p).status = .running) (hpc : (s.procs p).pc = .tryLock (k + 1)) (hh : s.holder = some q) :
    step c .safe p s = s.setP p { s.procs p with pc := .tryLock k } := by
  simp [step, hr, stepPc, hpc, hh]

/-- **refresh_skipped** (step form): a process that starts `CacheLock.__enter__` while the recorded timestamp `t`
is less than the threshold old takes the `CacheException` branch at once: its only primitive is reading the
timestamp, the only change its own record (error `tooRecent`). -/
theorem refresh_skipped (c : Cfg) (p t : Nat) (s : St)
    (hr : (s.procs p).status = .running) (hpc : (s.procs p).pc = .readTs)
    (hts : s.ts = some t) (hnow : (s.procs p).now < t + c.thr) :
    step c .safe p s = s.setP p (leave { s.procs p with err := some .tooRecent }) ∧
      labelOf p s = ⟨p, "readTs", 0, 0⟩ := by
  constructor
  · simp [step, hr, stepPc, hpc, hts, hnow]
  · simp only [labelOf, hr, hpc]

/-- **refresh_skipped** for reachable states: once some refresh has completed, a refresh `p` starting with its
clock within the threshold of every refresher's clock ends at once with `tooRecent`, having only read the
timestamp — provided nobody is rewriting the timestamp file (or died there: a truncated one reads as "never
refreshed"). -/
theorem refresh_skipped_after_completed (c : Cfg) (ps : List (Kind × Nat × Nat)) (sched : List Action)
    (p q m mp : Nat)
    (hq : ((runSt c .safe sched (init ps)).procs q).kind = .refresh m)
    (hqf : ((runSt c .safe sched (init ps)).procs q).status = .finished)
    (hqe : ((runSt c .safe sched (init ps)).procs q).err = none)
    (hp : ((runSt c .safe sched (init ps)).procs p).kind = .refresh mp)
    (hr : ((runSt c .safe sched (init ps)).procs p).status = .running)
    (hpc : ((runSt c .safe sched (init ps)).procs p).pc = .readTs)
    (hnt : (runSt c .safe sched (init ps)).tsTorn = false)
    (hclock : ∀ q' m', ((runSt c .safe sched (init ps)).procs q').kind = .refresh m' →
      ((runSt c .safe sched (init ps)).procs p).now < ((runSt c .safe sched (init ps)).procs q').now + c.thr) :
    step c .safe p (runSt c .safe sched (init ps)) =
      (runSt c .safe sched (init ps)).setP p
        { (runSt c .safe sched (init ps)).procs p with err := some .tooRecent, status := .finished } := by
  obtain ⟨t, hts⟩ : ∃ t, (runSt c .safe sched (init ps)).ts = some t := by
    rcases reach_inv2 c ps sched q m hq hqf hqe with e | e
    · exact Option.isSome_iff_exists.1 e
    · rw [hnt] at e
      cases e
  obtain ⟨q', m', hk', hn'⟩ := (reach_inv c ps sched).tsFrom t hts
  rw [(refresh_skipped c p t _ hr hpc hts (hn' ▸ hclock q' m' hk')).1, leave]
  simp only [hp]

/-! ### what a finished population / refresh leaves, downloads, direct reads -/

theorem copy_complete (c : Cfg) (ps : List (Kind × Nat × Nat)) (sched : List Action) (p f : Nat)
    (hk : ((runSt c .safe sched (init ps)).procs p).kind = .populate ∨
      ∃ m, ((runSt c .safe sched (init ps)).procs p).kind = .refresh m)
    (hf : ((runSt c .safe sched (init ps)).procs p).status = .finished)
    (he : ((runSt c .safe sched (init ps)).procs p).err = none)
    (hlt : f < total c ((runSt c .safe sched (init ps)).procs p).kind) :
    (runSt c .safe sched (init ps)).files (.final f) = some (full c f) :=
  (reach_inv c ps sched).final_complete (reach_inv3 c ps sched p hk hf he f hlt)

/-- **populate_complete** ("a finished population leaves byte-identical copies"): when `cache_local_versions`
has returned normally (no CacheException branch), every bundled file is in the cache, complete and equal to
the bundled file — in any schedule, whoever copied it. -/
theorem populate_complete (c : Cfg) (ps : List (Kind × Nat × Nat)) (sched : List Action) (p f : Nat)
    (hk : ((runSt c .safe sched (init ps)).procs p).kind = .populate)
    (hf : ((runSt c .safe sched (init ps)).procs p).status = .finished)
    (he : ((runSt c .safe sched (init ps)).procs p).err = none) (hlt : f < c.nFiles) :
    (runSt c .safe sched (init ps)).files (.final f) = some (full c f) :=
  copy_complete c ps sched p f (.inl hk) hf he (hk ▸ hlt)

/-- **refresh_complete**: a refresh of files `0 … m-1` that returned normally leaves each of them complete. -/
theorem refresh_complete (c : Cfg) (ps : List (Kind × Nat × Nat)) (sched : List Action) (p m f : Nat)
    (hk : ((runSt c .safe sched (init ps)).procs p).kind = .refresh m)
    (hf : ((runSt c .safe sched (init ps)).procs p).status = .finished)
    (he : ((runSt c .safe sched (init ps)).procs p).err = none) (hlt : f < m) :
    (runSt c .safe sched (init ps)).files (.final f) = some (full c f) :=
  copy_complete c ps sched p f (.inr ⟨m, hk⟩) hf he (hk ▸ hlt)

/-- **refresh_no_torn**: the download path (sha check, copy of the downloaded file to a temp name in the cache
folder, `os.replace`) never puts a partial file under a cache name — also for versions that are not bundled
(`f ≥ nFiles`) — and what a refresh is about to rename into place is a complete file (`no_torn` and half of
`rename_only_after_complete`, which hold of every kind of process). -/
theorem refresh_no_torn (c : Cfg) (ps : List (Kind × Nat × Nat)) (sched : List Action) :
    (∀ f ct, (runSt c .safe sched (init ps)).files (.final f) = some ct → ct = full c f) ∧
    (∀ p m i, ((runSt c .safe sched (init ps)).procs p).kind = .refresh m →
      ((runSt c .safe sched (init ps)).procs p).status = .running →
      ((runSt c .safe sched (init ps)).procs p).pc = .rename i →
      (runSt c .safe sched (init ps)).files (.tmp p i) = some (full c i)) :=
  ⟨no_torn c ps sched, fun _ _ _ _ hr hpc => (reach_inv c ps sched).rename_ready hr hpc⟩

/-- **peek_no_torn**: a direct read of a cache file (`get_library_data` opening `library_data.json`) never
obtains a partial file: whatever content it got is the bundled content. -/
theorem peek_no_torn (c : Cfg) (ps : List (Kind × Nat × Nat)) (sched : List Action) (p v : Nat) (ct : Content)
    (hk : ((runSt c .safe sched (init ps)).procs p).kind = .peek v)
    (hg : ((runSt c .safe sched (init ps)).procs p).got = some (some ct)) : ct = full c v := by
  rw [((reach_inv c ps sched).proc p).got ct hg, hk]
  rfl

/-! ### the code before the repair (`Cache.current`) violates every clause -/

/-- one bundled file of two chunks -/
def cfg1 : Cfg := ⟨1, 2, 1800, 4⟩

/-- (a) two `CacheLock` holders overlap; (b) a populate killed after the first chunk leaves a torn file
under the final name which a later complete populate keeps (`exists` → skip) and a later load is served;
(c) a load concurrent with a populate reads the half-copied file. -/
theorem current_counterexamples :
    -- (a)
    (let s := runSt cfg1 .current [.step 0, .step 1] (init [(.populate, 5000, 0), (.populate, 5000, 0)])
     (s.procs 0).inRegion && (s.procs 1).inRegion) = true ∧
    -- (b)
    (let s := runSt cfg1 .current
        [.step 0, .step 0, .step 0, .step 0, .crash 0, .step 1, .step 1, .step 1, .step 2, .step 2]
        (init [(.populate, 5000, 0), (.populate, 5000, 0), (.load 0, 5000, 0)])
     s.files (.final 0) = some ⟨0, [true]⟩ ∧ (s.procs 1).status = .finished ∧ (s.procs 1).err = none ∧
       (s.procs 2).status = .finished ∧ (s.procs 2).got = some (some ⟨0, [true]⟩)) ∧
    -- (c)
    (let s := runSt cfg1 .current [.step 0, .step 0, .step 0, .step 0, .step 1, .step 1, .step 0, .step 0]
        (init [(.populate, 5000, 0), (.load 0, 5000, 0)])
     (s.procs 1).got = some (some ⟨0, [true]⟩) ∧ (s.procs 0).status = .finished ∧
       s.files (.final 0) = some (full cfg1 0)) := by
  decide

/-- the unrepaired timestamp read (`except FileNotFoundError or ValueError or IOError`): a first-use loader
that has listed the empty directory, then a refresh that is killed between truncating and writing
`last_update.txt`; the loader's `CacheLock.__enter__` raises `ValueError` and the load fails. -/
theorem current_timestamp_counterexample :
    (let s := runSt cfg1 .current
        [.step 0, .step 1, .step 1, .step 1, .step 1, .step 1, .step 1, .step 1, .step 1, .crash 1, .step 0]
        (init [(.load 0, 5000, 0), (.refresh 1, 5000, 0)])
     s.tsTorn = true ∧ (s.procs 0).status = .finished ∧ (s.procs 0).err = some .tsUnreadable ∧
       (s.procs 0).got = none) := by
  decide

/-- the unrepaired in-place copy also serves a torn `library_data.json` to a direct reader -/
theorem current_direct_read_counterexample :
    (let s := runSt cfg1 .current [.step 0, .step 0, .step 0, .step 0, .crash 0, .step 1]
        (init [(.populate, 5000, 0), (.peek 0, 5000, 0)])
     (s.procs 1).status = .finished ∧ (s.procs 1).got = some (some ⟨0, [true]⟩)) := by
  decide

/-! ### what the refuted variants `pathlock`, `buffered`, `unanchored` break -/

/-- **lock_excludes_per_directory**: processes address the one directory under arbitrary path aliases (third
component of their descriptors).  The lock file lives inside the directory, one inode under every alias:
`Proto.safe` never reads `Proc.alias`, so this is `mutex`, whose `ps` ranges over all aliases. -/
theorem lock_excludes_per_directory (c : Cfg) (ps : List (Kind × Nat × Nat)) (sched : List Action) (p q : Nat)
    (hne : p ≠ q) :
    ¬ (((runSt c .safe sched (init ps)).procs p).inRegion = true ∧
       ((runSt c .safe sched (init ps)).procs q).inRegion = true) :=
  mutex c ps sched p q hne

/-- a lock file named after the path string does not exclude two aliases of one directory -/
theorem pathlock_counterexample :
    (let s := runSt cfg1 .pathlock [.step 0, .step 0, .step 0, .step 1, .step 1, .step 1]
        (init [(.populate, 5000, 0), (.populate, 5000, 1)])
     (s.procs 0).inRegion && (s.procs 1).inRegion) = true ∧
    -- (with one spelling it does exclude: the variant differs from `safe` only under aliasing)
    (let s := runSt cfg1 .pathlock [.step 0, .step 0, .step 0, .step 1, .step 1, .step 1]
        (init [(.populate, 5000, 7), (.populate, 5000, 7)])
     (s.procs 0).inRegion && (s.procs 1).inRegion) = false := by
  decide

/-- the copy is "write the chunks; close; rename": `afterCopy_safe`, and the step at `close` -/
theorem copy_order (c : Cfg) (k : Kind) (i : Nat) (p : Nat) (s : St) (hr : (s.procs p).status = .running)
    (hpc : (s.procs p).pc = .close i) :
    afterCopy c .safe k i = .close i ∧ ((step c .safe p s).procs p).pc = .rename i ∧
      (step c .safe p s).files = s.files := by
  refine ⟨afterCopy_safe c k i, ?_, ?_⟩ <;> simp [step, hr, stepPc, hpc]

/-- **rename_only_after_complete**: a process about to rename a temp file into place holds the complete source
content in it, so the file that becomes visible under the final name is complete at the instant of the rename. -/
theorem rename_only_after_complete (c : Cfg) (ps : List (Kind × Nat × Nat)) (sched : List Action) (p i : Nat)
    (hr : ((runSt c .safe sched (init ps)).procs p).status = .running)
    (hpc : ((runSt c .safe sched (init ps)).procs p).pc = .rename i) :
    (runSt c .safe sched (init ps)).files (.tmp p i) = some (full c i) ∧
      (step c .safe p (runSt c .safe sched (init ps))).files (.final i) = some (full c i) := by
  have hR := (reach_inv c ps sched).rename_ready hr hpc
  refine ⟨hR, ?_⟩
  simp [step, hr, stepPc, hpc, hR, upd]

/-- the buffered-tail variant (rename inside the `with` block, before the writer is closed): a kill right
after the rename leaves a file without its tail under the final name, and a later load is served it; a
concurrent load in that window reads it too, although the populate then completes the file. -/
theorem buffered_tail_counterexample :
    (let s := runSt cfg1 .buffered (List.replicate 9 (.step 0) ++ [.crash 0, .step 1, .step 1])
        (init [(.populate, 5000, 0), (.load 0, 5000, 0)])
     s.files (.final 0) = some ⟨0, [true]⟩ ∧ (s.procs 1).got = some (some ⟨0, [true]⟩)) ∧
    (let s := runSt cfg1 .buffered (List.replicate 9 (.step 0) ++ [.step 1, .step 1, .step 0, .step 0])
        (init [(.populate, 5000, 0), (.load 0, 5000, 0)])
     s.files (.final 0) = some (full cfg1 0) ∧ (s.procs 0).status = .finished ∧
       (s.procs 1).got = some (some ⟨0, [true]⟩)) := by
  decide

/-- **listed_versions_are_final_files**: the listing filter of the repaired code counts a version only when
its final name exists (a temporary or partial name is never listed as a version), and a loader that has seen
its version in a listing will read a complete file. -/
theorem listed_versions_are_final_files (c : Cfg) (ps : List (Kind × Nat × Nat)) (sched : List Action) :
    (∀ v, seen .safe (runSt c .safe sched (init ps)) v = true →
      (runSt c .safe sched (init ps)).files (.final v) = some (full c v)) ∧
    (∀ p v, ((runSt c .safe sched (init ps)).procs p).kind = .load v →
      ((runSt c .safe sched (init ps)).procs p).status = .running →
      ((runSt c .safe sched (init ps)).procs p).pc = .read →
      (runSt c .safe sched (init ps)).files (.final v) = some (full c v)) := by
  have hi := reach_inv c ps sched
  constructor
  · intro v hv
    rw [seen_safe] at hv
    exact hi.final_complete hv
  · intro p v hk hr hpc
    exact hi.final_complete ((hpc ▸ (hi.proc p).run hr : atPc c _ p _ .read).2 v hk)

/-- without the anchors the temp name of a copy in progress is listed as the version; the loader looks for a
final file that is not there and ends "not found" (the real code then goes to the network) -/
theorem unanchored_counterexample :
    (let s := runSt cfg1 .unanchored [.step 0, .step 0, .step 0, .step 0, .step 0, .step 1, .step 1]
        (init [(.populate, 5000, 0), (.load 0, 5000, 0)])
     s.files (.final 0) = none ∧ (s.procs 1).saw = true ∧ (s.procs 1).status = .finished ∧
       (s.procs 1).got = some none) := by
  decide

theorem runSt_append (c : Cfg) (proto : Proto) (a b : List Action) (s : St) :
    runSt c proto (a ++ b) s = runSt c proto b (runSt c proto a s) := by
  induction a generalizing s with
  | nil => rfl
  | cons x xs ih => simp [runSt, ih]

/-- **load_uses_cache_or_bundled**: from any reachable state of the cache directory (history `pre`), continued
in any way (`post`), every completed load of a bundled version returns the bundled bytes: `load_ok` for
`pre ++ post` (cache file if listed, installed copy otherwise: `Step.found` / `Step.missing`). -/
theorem load_uses_cache_or_bundled (c : Cfg) (ps : List (Kind × Nat × Nat)) (pre post : List Action) (p v : Nat)
    (hk : ((runSt c .safe post (runSt c .safe pre (init ps))).procs p).kind = .load v)
    (hf : ((runSt c .safe post (runSt c .safe pre (init ps))).procs p).status = .finished) :
    ((runSt c .safe post (runSt c .safe pre (init ps))).procs p).got = some (some (full c v)) := by
  rw [← runSt_append] at hk hf ⊢
  exact load_ok c ps (pre ++ post) p v hk hf

/-- outside the interval `CacheLock.__enter__` goes on to the lock (the threshold test is exact) -/
theorem refresh_not_skipped_outside (c : Cfg) (p : Nat) (s : St)
    (hr : (s.procs p).status = .running) (hpc : (s.procs p).pc = .readTs)
    (hnow : s.ts.getD 0 + c.thr ≤ (s.procs p).now) :
    step c .safe p s = s.setP p { s.procs p with pc := .openLock } := by
  have : ¬ (s.procs p).now < s.ts.getD 0 + c.thr := by omega
  simp [step, hr, stepPc, hpc, this]

/-- `_check_if_url`: exactly the two scheme prefixes; an absolute file path is never taken for a URL, so the
path of a cache (or bundled) file always goes to the file loader -/
theorem checkIfUrl_spec (s : List Char) :
    checkIfUrl s = true ↔ "http://".toList.isPrefixOf s = true ∨ "https://".toList.isPrefixOf s = true := by
  simp [checkIfUrl]

theorem checkIfUrl_abs (t : List Char) : checkIfUrl ('/' :: t) = false := by
  simp [checkIfUrl, List.isPrefixOf]

/-! ### non-vacuity, and the counter-example schedules under `Cache.safe` -/

/-- the primitives of an undisturbed populate, in order -/
example : (run cfg1 .safe 1 (List.replicate 12 (.step 0)) (init [(.populate, 5000, 0)])).1.map (·.what) =
    ["readTs", "openLock", "tryLock", "exists", "mktemp", "create", "append", "append", "close", "rename", "unlock",
     "idle"] := by decide

/-- the primitives of an undisturbed refresh of one file (sha check, download to temp, replace, timestamp) -/
example : (run cfg1 .safe 1 (List.replicate 12 (.step 0)) (init [(.refresh 1, 5000, 0)])).1.map (·.what) =
    ["readTs", "openLock", "tryLock", "read", "create", "append", "append", "close", "rename", "truncTs", "writeTs",
     "unlock"] := by decide

/-- the torn-timestamp schedule under the repaired protocol: the truncated file reads as 0, the loader
populates the cache itself and gets the bundled content -/
example :
    (let s := runSt cfg1 .safe
        ([.step 0] ++ List.replicate 10 (.step 1) ++ [.crash 1] ++ List.replicate 7 (.step 0))
        (init [(.load 0, 5000, 0), (.refresh 1, 5000, 0)])
     s.tsTorn = true ∧ (s.procs 0).status = .finished ∧ (s.procs 0).err = none ∧
       (s.procs 0).got = some (some (full cfg1 0))) := by decide

/-- a direct reader: nothing there before the population, the complete file after it -/
example :
    (let s := runSt cfg1 .safe ([.step 1] ++ List.replicate 11 (.step 0) ++ [.step 2])
        (init [(.populate, 5000, 0), (.peek 0, 5000, 0), (.peek 0, 5000, 0)])
     (s.procs 1).got = some none ∧ (s.procs 2).got = some (some (full cfg1 0)) ∧
       (s.procs 0).status = .finished ∧ (s.procs 0).err = none) := by decide

/-- schedule (b) under the repaired protocol: the killed populate leaves only a temp file, the second one
completes the cache, the loader gets the bundled content -/
example :
    (let s := runSt cfg1 .safe
        ([.step 0, .step 0, .step 0, .step 0, .step 0, .step 0, .step 0, .crash 0] ++ List.replicate 11 (.step 1) ++
          [.step 2, .step 2])
        (init [(.populate, 5000, 0), (.populate, 5000, 0), (.load 0, 5000, 0)])
     s.files (.final 0) = some (full cfg1 0) ∧ s.files (.tmp 0 0) = some ⟨0, [true]⟩ ∧
       (s.procs 2).kind = .load 0 ∧ (s.procs 2).status = .finished ∧
       (s.procs 2).got = some (some (full cfg1 0))) := by decide

/-- a loader arriving in the middle of a populate is served the bundled file (not in the listing yet) -/
example :
    (let s := runSt cfg1 .safe [.step 0, .step 0, .step 0, .step 0, .step 0, .step 0, .step 0, .step 1]
        (init [(.populate, 5000, 0), (.load 0, 5000, 0)])
     s.files (.final 0) = none ∧ (s.procs 1).status = .finished ∧ (s.procs 1).got = some (some (full cfg1 0))) := by
  decide

/-- the lock-timeout branch is reachable: the second populate burns its five attempts and gives up -/
example :
    (let s := runSt cfg1 .safe ([.step 0, .step 0, .step 0] ++ List.replicate 7 (.step 1))
        (init [(.populate, 5000, 0), (.populate, 5000, 0)])
     (s.procs 0).inRegion = true ∧ (s.procs 1).status = .finished ∧ (s.procs 1).err = some .lockTimeout ∧
       s.holder = some 0) := by decide

/-- the hypotheses of `refresh_skipped_after_completed` are satisfiable: refresh 0 completes at clock 5000,
refresh 1 starts at 5100 -/
example :
    (let s := runSt cfg1 .safe (List.replicate 12 (.step 0)) (init [(.refresh 1, 5000, 0), (.refresh 1, 5100, 0)])
     (s.procs 0).status = .finished ∧ (s.procs 0).err = none ∧ s.ts = some 5000 ∧ s.tsTorn = false ∧
       (s.procs 1).status = .running ∧ (s.procs 1).pc = .readTs ∧
       ((step cfg1 .safe 1 s).procs 1).err = some .tooRecent ∧ ((step cfg1 .safe 1 s).procs 1).status = .finished) := by
  decide

end HedVerif.C19
