/-
Property C17 — remodeling operations are pure functions of their parameters and input table.
Theorems about `HedVerif.Remodel` (Model/Remodel.lean), for all tables, operation lists and processing histories.
Per operation: the code's way of computing the table equals the documented one (`*_refines`), and it runs on
suitable tables (`*_runs`).
-/
import HedVerif.Model.Remodel
namespace HedVerif.C17
open HedVerif HedVerif.Remodel

/-- a rearrangement of the rows applied to every column (a permutation, a selection, …).
By definition `filterRows m` is `mapCols (applyMask m)` and `mapCells f` is `mapCols (List.map f)`. -/
def mapCols (f : Column → Column) (t : Table) : Table := t.map fun p => (p.1, f p.2)

theorem header_mapCols {f : Column → Column} (t : Table) : header (mapCols f t) = header t := by
  simp only [header, mapCols, List.map_map, Function.comp_def]

theorem lookup_mapCols {f : Column → Column} (t : Table) (n : Str) :
    (mapCols f t).lookup n = (t.lookup n).map f := by
  induction t with
  | nil => rfl
  | cons p t ih =>
    obtain ⟨m, c⟩ := p
    simp only [mapCols, List.map_cons, List.lookup_cons] at ih ⊢
    cases n == m
    · exact ih
    · rfl

theorem header_prep (t : Table) : header (prep t) = header t := header_mapCols t

theorem lookup_filterRows (m : List Bool) (t : Table) (col : Str) :
    (filterRows m t).lookup col = (t.lookup col).map (applyMask m) := lookup_mapCols t col

theorem lookup_none_iff {t : Table} {col : Str} : t.lookup col = none ↔ col ∉ header t := by
  simp only [List.lookup_eq_none_iff, header, List.mem_map, bne_iff_ne, ne_eq]
  exact ⟨fun h ⟨a, ha, e⟩ => h a ha e.symm, fun h p hp e => h ⟨p, hp, e.symm⟩⟩

theorem mem_header_iff {t : Table} {col : Str} : col ∈ header t ↔ ∃ c, t.lookup col = some c := by
  rw [← Option.ne_none_iff_exists', ne_eq, lookup_none_iff, Decidable.not_not]

theorem applyMask_nil_right {α} (m : List Bool) : applyMask m ([] : List α) = [] := by
  cases m with
  | nil => rfl
  | cons b m => cases b <;> rfl

theorem applyMask_comp {α β} (p : α → Bool) :
    ∀ (m : List Bool) (c : List α) (d : List β),
      applyMask ((applyMask m c).map p) (applyMask m d) = applyMask (List.zipWith (· && ·) m (c.map p)) d
  | [], c, d => rfl
  | b :: m, [], d => by rw [applyMask_nil_right]; rfl
  | b :: m, x :: c, [] => by simp only [applyMask_nil_right]
  | false :: m, x :: c, y :: d => applyMask_comp p m c d
  | true :: m, x :: c, y :: d => by
    have ih := applyMask_comp p m c d
    cases hp : p x
    · simp only [applyMask, List.map_cons, List.zipWith_cons_cons, hp, Bool.and_false, ih]
    · simp only [applyMask, List.map_cons, List.zipWith_cons_cons, hp, Bool.and_true, ih]

theorem filterRows_filterRows (p q : Cell → Bool) (c : Column) (t : Table) :
    filterRows ((applyMask (c.map q) c).map p) (filterRows (c.map q) t)
      = filterRows (c.map fun x => q x && p x) t := by
  simp only [filterRows, List.map_map]
  apply List.map_congr_left
  intro r _
  simp only [Function.comp, applyMask_comp, List.zipWith_map_left, List.zipWith_map_right, List.zipWith_self]

theorem selectCols_sound {names : List Str} {t r : Table} (h : selectCols names t = .ok r) :
    header r = names ∧ ∀ p ∈ r, t.lookup p.1 = some p.2 := by
  fun_induction selectCols names t generalizing r with
  | case1 t =>
    cases h
    exact ⟨rfl, fun _ hp => nomatch hp⟩
  | case2 n ns t c r' hr hl ih =>
    cases h
    exact ⟨congrArg (n :: ·) (ih hr).1, List.forall_mem_cons.2 ⟨hl, (ih hr).2⟩⟩
  | case3 => cases h
  | case4 => cases h

theorem lookupAll_eq (t : Table) : ∀ cs : List Str, lookupAll t cs = selectCols cs t
  | [] => rfl
  | c :: cs => by
    rw [lookupAll, selectCols, lookupAll_eq t cs]
    cases t.lookup c <;> cases selectCols cs t <;> rfl

theorem selectCols_cons_not_mem (n : Str) (c : Column) (t : Table) : ∀ names : List Str, n ∉ names →
    selectCols names ((n, c) :: t) = selectCols names t
  | [], _ => rfl
  | m :: ms, h => by
    have hm : (m == n) = false := beq_false_of_ne fun e => h (e ▸ List.mem_cons_self ..)
    simp only [selectCols, List.lookup, hm, selectCols_cons_not_mem n c t ms fun hh => h (List.mem_cons_of_mem _ hh)]

theorem selectCols_header_self : ∀ t : Table, (header t).Nodup → selectCols (header t) t = .ok t
  | [], _ => rfl
  | (n, c) :: t, h => by
    obtain ⟨hn, ht⟩ : n ∉ header t ∧ (header t).Nodup := List.nodup_cons.1 h
    have ih := selectCols_header_self t ht
    have hc := selectCols_cons_not_mem n c t (header t) hn
    simp only [header] at hc ih
    simp only [header, List.map_cons, selectCols, List.lookup, BEq.rfl, hc, ih]

theorem selectCols_mapCols (f : Column → Column) (t : Table) : ∀ names : List Str,
    selectCols names (mapCols f t) = (selectCols names t).map (mapCols f)
  | [] => rfl
  | n :: ns => by
    simp only [selectCols, lookup_mapCols, selectCols_mapCols f t ns]
    cases t.lookup n <;> cases selectCols ns t <;> simp [mapCols, Except.map]

theorem postCell_prepCell {x : Cell} (h : x ≠ Cell.nan) : postCell (prepCell x) = x := by
  cases x with
  | str s => by_cases hs : s = naStr <;> simp [prepCell, postCell, hs]
  | int n => rfl
  | flt r => rfl
  | nan => exact absurd rfl h

theorem prepCell_postCell {x : Cell} (h : x ≠ Cell.str naStr) : prepCell (postCell x) = x := by
  cases x with
  | str s =>
    have : s ≠ naStr := fun e => h (by rw [e])
    simp [prepCell, postCell, this]
  | int n => rfl
  | flt r => rfl
  | nan => simp [prepCell, postCell]

theorem mapCells_inverse {f g : Cell → Cell} {t : Table} (h : ∀ p ∈ t, ∀ c ∈ p.2, g (f c) = c) :
    mapCells g (mapCells f t) = t := by
  unfold mapCells
  rw [List.map_map]
  refine (List.map_congr_left fun p hp => ?_).trans (List.map_id t)
  exact congrArg (Prod.mk p.1) ((List.map_map ..).trans ((List.map_congr_left (h p hp)).trans (List.map_id p.2)))

/-! ### remove_rows -/

theorem removeRows_fold {col : Str} {t : Table} {c : Column} (hc : t.lookup col = some c) :
    ∀ (vs : List Val) (q : Cell → Bool),
      vs.foldl (removeRowsStep col) (filterRows (c.map q) t)
        = filterRows (c.map fun x => q x && vs.all fun v => !cellEq x v) t
  | [], q => by simp only [List.foldl_nil, List.all_nil, Bool.and_true]
  | v :: vs, q => by
    have hl : (filterRows (c.map q) t).lookup col = some (applyMask (c.map q) c) := by
      rw [lookup_filterRows, hc]; rfl
    have hstep : removeRowsStep col (filterRows (c.map q) t) v
        = filterRows (c.map fun x => q x && !cellEq x v) t := by
      simp only [removeRowsStep, hl]
      exact filterRows_filterRows (fun x => !cellEq x v) q c t
    rw [List.foldl_cons, hstep, removeRows_fold hc vs]
    simp only [List.all_cons, Bool.and_assoc]

/-- `vals ≠ []`: with no value the code returns the table, the documented mask still cuts the longer columns of a
ragged table. -/
theorem removeRows_refines {col : Str} {vals : List Val} {t : Table} (hv : vals ≠ []) :
    removeRowsImpl col vals t = removeRowsSpec col vals t := by
  unfold removeRowsImpl removeRowsSpec
  cases hl : t.lookup col with
  | none =>
    simp [lookup_none_iff.1 hl]
  | some c =>
    have hm : col ∈ header t := mem_header_iff.2 ⟨c, hl⟩
    cases vals with
    | nil => exact absurd rfl hv
    | cons v vs =>
      simp only [hm, if_true, List.foldl_cons]
      have h1 : removeRowsStep col t v = filterRows (c.map fun x => !cellEq x v) t := by
        simp [removeRowsStep, hl]
      rw [h1, removeRows_fold hl vs]
      simp [List.all_cons]

/-! ### reorder_columns -/

theorem any_eq_not_isEmpty_filter {α} (p : α → Bool) (l : List α) : l.any p = !(l.filter p).isEmpty := by
  induction l with
  | nil => rfl
  | cons x l ih => cases h : p x <;> simp [h, ih]

theorem any_congr' {α} {p q : α → Bool} : ∀ l : List α, (∀ a ∈ l, p a = q a) → l.any p = l.any q
  | [], _ => rfl
  | x :: l, h => by
    simp only [List.any_cons, h x (by simp), any_congr' l (fun a ha => h a (by simp [ha]))]

theorem reorder_refines (o : List Str) (i k : Bool) (t : Table) :
    reorderImpl o i k t = (o, reorderSpec o i k t) := by
  -- the code's `ordered` is the listed columns that exist, whether or not one is missing
  have hord : (if (!(o.filter fun e => !(header t).contains e).isEmpty) = true
        then o.filter fun e => !(o.filter fun e => !(header t).contains e).contains e else o)
      = o.filter fun e => (header t).contains e := by
    split
    · apply List.filter_congr
      intro e he
      simp [he]
    · next hm =>
      symm
      rw [List.filter_eq_self]
      intro e he
      have hm' : (o.filter fun e => !(header t).contains e) = [] := by simpa using hm
      simpa using List.filter_eq_nil_iff.1 hm' e he
  have hoth : ((header t).filter fun e => !(o.filter fun e => (header t).contains e).contains e)
      = (header t).filter fun e => !o.contains e := by
    apply List.filter_congr
    intro e he
    simp [he]
  have hk : ∀ L R : List Str, (if k = true then L ++ R else L) = L ++ if k = true then R else [] := by
    intro L R
    cases k
    · exact (List.append_nil L).symm
    · rfl
  unfold reorderImpl reorderSpec
  simp only [hord, hoth, hk, any_eq_not_isEmpty_filter]
  rw [Bool.and_comm]
  split <;> rfl

/-! ### factor_column -/

theorem header_setCol (t : Table) (n : Str) (c : Column) :
    header (setCol t n c) = if n ∈ header t then header t else header t ++ [n] := by
  unfold setCol
  split
  · simp only [header, List.map_map]
    apply List.map_congr_left
    intro p _
    simp only [Function.comp_def]
    split <;> rfl
  · simp [header]

theorem mem_header_setCol {t : Table} (n : Str) (c : Column) {x : Str} (h : x ∈ header t) :
    x ∈ header (setCol t n c) := by
  rw [header_setCol]; split <;> simp [h]

theorem lookup_map_replace {t : Table} {n col : Str} {c : Column} (h : n ≠ col) :
    (t.map (fun p => if p.1 = n then (p.1, c) else p)).lookup col = t.lookup col := by
  induction t with
  | nil => rfl
  | cons p t ih =>
    obtain ⟨m, d⟩ := p
    by_cases hm : m = n
    · subst hm
      have : (col == m) = false := beq_false_of_ne (Ne.symm h)
      simp only [List.map_cons, if_true, List.lookup, this]
      exact ih
    · simp only [List.map_cons, hm, if_false, List.lookup]
      split
      · rfl
      · exact ih

theorem lookup_setCol_ne {t : Table} {n col : Str} {c : Column} (h : n ≠ col) :
    (setCol t n c).lookup col = t.lookup col := by
  unfold setCol
  split
  · exact lookup_map_replace h
  · cases hl : t.lookup col with
    | none =>
      have : (col == n) = false := beq_false_of_ne (Ne.symm h)
      simp [List.lookup_append, hl, List.lookup, this]
    | some d => simp [List.lookup_append, hl]

theorem setCol_mapCols (f : Column → Column) (t : Table) (n : Str) (c : Column) :
    setCol (mapCols f t) n (f c) = mapCols f (setCol t n c) := by
  unfold setCol
  rw [header_mapCols]
  split
  · simp only [mapCols, List.map_map]
    apply List.map_congr_left
    intro p _
    simp only [Function.comp]
    split <;> rfl
  · simp [mapCols]

theorem factorLoop_eq {col : Str} {c0 : Column} :
    ∀ (fv fn : List Str) (t : Table), t.lookup col = some c0 → col ∉ fn →
      factorLoop col fv fn t =
        if fn.length < fv.length then .error (.raised .IndexError)
        else .ok ((fv.zip fn).foldl (fun t' vn => setCol t' vn.2 (factorCol c0 vn.1)) t)
  | [], fn, t, _, _ => by simp [factorLoop]
  | v :: vs, [], t, hl, _ => by simp [factorLoop, hl]
  | v :: vs, n :: ns, t, hl, hn => by
    have hl' : (setCol t n (factorCol c0 v)).lookup col = some c0 :=
      (lookup_setCol_ne (List.ne_of_not_mem_cons hn).symm).trans hl
    simp only [factorLoop, hl]
    rw [factorLoop_eq vs ns _ hl' (List.not_mem_of_not_mem_cons hn)]
    simp [List.zip_cons_cons, List.foldl_cons]

theorem derived_name_ne {col v : Str} : col ++ '.' :: v ≠ col := by
  intro h
  have := congrArg List.length h
  simp at this

theorem factor_refines {col : Str} {values names : Option (List Str)} {t : Table}
    (hn : col ∉ names.getD []) : factorImpl col values names t = factorSpec col values names t := by
  unfold factorImpl factorSpec
  cases hl : t.lookup col with
  | none => rfl
  | some c0 =>
    simp only
    apply factorLoop_eq _ _ t hl
    unfold factorNames
    split
    · intro hmem
      rw [List.mem_map] at hmem
      obtain ⟨v, _, hv⟩ := hmem
      exact derived_name_ne hv
    · exact hn

/-! ### merge_consecutive -/

/-- `_get_remove_groups` gives the next row a group number (marks it for removal) -/
def dropped (st : GSt) (mr : Bool × Row) : Bool := mr.1 && st.inGroup && decide (st.prev = some mr.2)

theorem groupStep_eq (st : GSt) (mr : Bool × Row) :
    groupStep st mr =
      { inGroup := mr.1
        count := if mr.1 && !dropped st mr then st.count + 1 else st.count
        prev := some mr.2
        out := (if dropped st mr then st.count else 0) :: st.out } := by
  obtain ⟨m, r⟩ := mr
  obtain ⟨ig, cnt, prev, out⟩ := st
  cases m
  · rfl
  · cases ig
    · rfl
    · by_cases hp : prev = some r <;> simp [groupStep, dropped, hp]

/-- the group numbers `_get_remove_groups` can emit from state (`in_group`, `group_count`) -/
inductive Gen : Bool → Nat → List Nat → Prop
  | nil (b c) : Gen b c []
  | other (b c ids) : Gen false c ids → Gen b c (0 :: ids)          -- a row without the event code
  | start (b c ids) : Gen true (c + 1) ids → Gen b c (0 :: ids)      -- a kept row with the code (count += 1)
  | drop (c ids) : 1 ≤ c → Gen true c ids → Gen true c (c :: ids)    -- a row equal to its predecessor

theorem groups_of_fold (mrs : List (Bool × Row)) (st : GSt) (hinv : st.inGroup = true → 1 ≤ st.count) :
    ∃ ids, (mrs.foldl groupStep st).out.reverse = st.out.reverse ++ ids ∧ Gen st.inGroup st.count ids
      ∧ ids.map (· == 0) = mergeKeep (st.prev.map fun r => (st.inGroup, r)) mrs := by
  induction mrs generalizing st with
  | nil => exact ⟨[], (List.append_nil _).symm, Gen.nil _ _, rfl⟩
  | cons mr mrs ih =>
    have hd : dropped st mr = true → mr.1 = true ∧ st.inGroup = true ∧ st.prev = some mr.2 := by
      simp only [dropped, Bool.and_eq_true, decide_eq_true_eq, and_assoc, imp_self]
    have hinv' : mr.1 = true → 1 ≤ (if mr.1 && !dropped st mr then st.count + 1 else st.count) := by
      intro hm
      rw [hm]
      cases hdr : dropped st mr
      · exact Nat.le_add_left 1 _
      · exact hinv (hd hdr).2.1
    obtain ⟨ids, hout, hgen, hkeep⟩ := ih (groupStep st mr) (by rw [groupStep_eq]; exact hinv')
    simp only [groupStep_eq] at hout hgen hkeep
    refine ⟨(if dropped st mr then st.count else 0) :: ids, ?_, ?_, ?_⟩
    · simp only [List.foldl_cons, groupStep_eq, hout, List.reverse_cons, List.append_assoc, List.cons_append,
        List.nil_append]
    · cases hdr : dropped st mr
      · rw [hdr] at hgen
        cases hm : mr.1
        · rw [hm] at hgen; exact Gen.other _ _ _ hgen
        · rw [hm] at hgen; exact Gen.start _ _ _ hgen
      · obtain ⟨hm, hig, -⟩ := hd hdr
        rw [hdr, hm] at hgen
        rw [hig]
        exact Gen.drop _ _ (hinv hig) hgen
    · rw [List.map_cons, hkeep]
      refine congrArg (· :: mergeKeep (some mr) mrs) ?_
      have hz : ((if dropped st mr then st.count else 0) == 0) = !dropped st mr := by
        cases hdr : dropped st mr
        · rfl
        · exact beq_false_of_ne (Nat.ne_of_gt (hinv (hd hdr).2.1))
      rw [hz]
      cases hp : st.prev <;> simp [dropped, hp, Bool.and_assoc]

theorem removeGroups_spec (mrs : List (Bool × Row)) :
    Gen false 0 (removeGroups mrs) ∧ (removeGroups mrs).map (· == 0) = mergeKeep none mrs := by
  obtain ⟨ids, h1, h2, h3⟩ := groups_of_fold mrs {} (fun h => Bool.noConfusion h)
  rw [removeGroups, h1]
  exact ⟨h2, h3⟩

/-! #### set_durations -/

theorem endTw_toFloat (o d : Cell) : endTw o (toFloat d) = endTw o d := by cases d <;> rfl
theorem toFloat_toFloat (c : Cell) : toFloat (toFloat c) = toFloat c := by cases c <;> rfl

theorem gen_bound {b c ids} (h : Gen b c ids) : ∀ g ∈ ids, g ≠ 0 → (if b then c ≤ g else c < g) := by
  induction h with
  | nil b c => exact fun g hg => nomatch hg
  | other b c ids _ ih | start b c ids _ ih =>
    intro g hg hne
    rcases List.mem_cons.1 hg with rfl | hg'
    · exact absurd rfl hne
    · have : c < g := ih g hg' hne
      cases b
      · exact this
      · exact Nat.le_of_lt this
  | drop c ids hc _ ih =>
    intro g hg hne
    rcases List.mem_cons.1 hg with rfl | hg'
    · exact Nat.le_refl g
    · exact ih g hg' hne

/-- zipping the group numbers with the time columns may cut them short -/
theorem gen_zip {β} (xs : List β) {b c ids} (h : Gen b c ids) : Gen b c ((ids.zip xs).map Prod.fst) := by
  induction xs generalizing b c ids with
  | nil =>
    rw [List.zip_nil_right]
    exact Gen.nil b c
  | cons x xs ih =>
    cases h with
    | nil => exact Gen.nil b c
    | other _ _ ids h => exact Gen.other b c _ (ih h)
    | start _ _ ids h => exact Gen.start b c _ (ih h)
    | drop _ ids hc h => exact Gen.drop c _ hc (ih h)

def idsOf (rs : List DRow) : List Nat := rs.map (·.1)

/-- the rest of the table after a run of dropped rows: nothing, or it starts with a kept row -/
def KeptHead (rs : List DRow) : Prop := ∀ i ∈ (idsOf rs).head?, i = 0

theorem keptHead_cons {x : DRow} (hx : x.1 = 0) {rs : List DRow} : KeptHead (x :: rs) := by
  intro r hr
  cases hr
  exact hx

/-- the anchor of a run of rows with group number `c` -/
def updA (c : Nat) (a : DRow) (run : List DRow) : DRow :=
  match groupMax c run with
  | some m => (a.1, a.2.1, anchorDur a.2.1 a.2.2 m)
  | none => a

theorem updA_fst {c : Nat} {a : DRow} {run : List DRow} : (updA c a run).1 = a.1 := by
  unfold updA; split <;> rfl

theorem updateGroupAux_cons_cons {g : Nat} {a b : DRow} {rest : List DRow} :
    updateGroupAux g (a :: b :: rest) =
      if b.1 == g then updA g a (b :: rest) :: b :: rest else a :: updateGroupAux g (b :: rest) := by
  have h : updateGroupAux g (a :: b :: rest) =
      if b.1 == g then
        match groupMax g (b :: rest) with
        | some mg => (a.1, a.2.1, anchorDur a.2.1 a.2.2 mg) :: b :: rest
        | none => a :: b :: rest
      else a :: updateGroupAux g (b :: rest) := rfl
  rw [h, updA]
  cases groupMax g (b :: rest) <;> rfl

theorem idsOf_updateGroupAux (g : Nat) (rs : List DRow) : idsOf (updateGroupAux g rs) = idsOf rs := by
  fun_induction updateGroupAux g rs with
  | case3 a b rest _ ih => exact congrArg (a.1 :: ·) ih
  | _ => rfl

theorem keptHead_updateGroupAux (g : Nat) (rs : List DRow) (h : KeptHead rs) : KeptHead (updateGroupAux g rs) := by
  rw [KeptHead, idsOf_updateGroupAux]
  exact h

theorem updateGroupAux_skip (g : Nat) (pre rest : List DRow) (hpre : ∀ r ∈ pre, r.1 ≠ g)
    (hrest : ∀ i ∈ (idsOf rest).head?, i ≠ g) : updateGroupAux g (pre ++ rest) = pre ++ updateGroupAux g rest := by
  induction pre with
  | nil => rfl
  | cons p pre ih =>
    have ih' := ih fun r hr => hpre r (List.mem_cons_of_mem _ hr)
    cases pre with
    | nil =>
      cases rest with
      | nil => rfl
      | cons r rest' => exact updateGroupAux_cons_cons.trans (if_neg fun e => hrest r.1 rfl (eq_of_beq e))
    | cons q pre' =>
      have hq : ¬ (q.1 == g) = true := fun e => hpre q (List.mem_cons_of_mem _ (List.mem_cons_self ..)) (eq_of_beq e)
      exact updateGroupAux_cons_cons.trans ((if_neg hq).trans (congrArg (p :: ·) ih'))

theorem updateGroupAux_absent {g : Nat} {rs : List DRow} (h : g ∉ idsOf rs) : updateGroupAux g rs = rs := by
  have hs := updateGroupAux_skip g rs [] (fun r hr e => h (e ▸ List.mem_map_of_mem hr)) (fun _ hr => nomatch hr)
  rw [List.append_nil] at hs
  exact hs.trans (List.append_nil rs)

theorem updateGroup_ok {g : Nat} {rs : List DRow} (hg : g ≠ 0) (h : KeptHead rs) :
    updateGroup g rs = .ok (updateGroupAux g rs) := by
  cases rs with
  | nil => rfl
  | cons r rest => exact if_neg fun e => hg ((eq_of_beq e).symm.trans (h r.1 rfl))

theorem groupMax_append_absent {c : Nat} {run rest : List DRow} (h : c ∉ idsOf rest) :
    groupMax c (run ++ rest) = groupMax c run := by
  have : rest.filter (·.1 == c) = [] :=
    List.filter_eq_nil_iff.2 fun r hr hc => h (eq_of_beq hc ▸ List.mem_map_of_mem hr)
  rw [groupMax, List.filter_append, this, List.append_nil]
  rfl

theorem updateGroupAux_anchor {c : Nat} {a : DRow} {run rest : List DRow} (ha : a.1 = 0) (hc : c ≠ 0)
    (hrun : ∀ r ∈ run, r.1 = c) (hk : KeptHead rest) (habs : run ≠ [] → c ∉ idsOf rest) :
    updateGroupAux c (a :: run ++ rest) = updA c a run :: run ++ updateGroupAux c rest := by
  cases run with
  | nil =>
    exact updateGroupAux_skip c [a] rest (fun r hr => by cases List.mem_singleton.1 hr; exact ha ▸ hc.symm)
      (fun r hr => hk r hr ▸ hc.symm)
  | cons x run' =>
    have hab := habs (List.cons_ne_nil _ _)
    have hx : (x.1 == c) = true := beq_iff_eq.2 (hrun x (List.mem_cons_self ..))
    rw [updateGroupAux_absent hab]
    refine (updateGroupAux_cons_cons (rest := run' ++ rest)).trans ((if_pos hx).trans ?_)
    have hgm : groupMax c (x :: run' ++ rest) = groupMax c (x :: run') := groupMax_append_absent hab
    exact congrArg (· :: (x :: run' ++ rest)) (by unfold updA; rw [← List.cons_append, hgm])

theorem updateLoop_cons {g : Nat} {gs : List Nat} (rs : List DRow) (hg : g ≠ 0) (hk : KeptHead rs) :
    updateLoop (g :: gs) rs = updateLoop gs (updateGroupAux g rs) := by
  have h : updateLoop (g :: gs) rs =
      match updateGroup g rs with
      | .ok rs' => updateLoop gs rs'
      | .error e => .error e := rfl
  rw [h, updateGroup_ok hg hk]

/-- The loop seen from one anchor row `a` and the run of dropped rows (all numbered `c`) behind it: only the pass for
`c` touches them (it gives `a` its new duration); the rows after the run are treated as if they stood alone. -/
theorem loop_seg {c : Nat} {run : List DRow} (hrun : ∀ r ∈ run, r.1 = c) {gs : List Nat} (hnd : gs.Nodup)
    (h0 : 0 ∉ gs) (a : DRow) (rest : List DRow) (ha : a.1 = 0) (hk : KeptHead rest)
    (habs : run ≠ [] → c ∉ idsOf rest) :
    updateLoop gs (a :: run ++ rest)
      = (updateLoop gs rest).map (fun rest' => (if c ∈ gs then updA c a run else a) :: run ++ rest') := by
  induction gs generalizing a rest with
  | nil => rfl
  | cons g gs ih =>
    have hg0 : g ≠ 0 := fun h => h0 (h ▸ List.mem_cons_self ..)
    have hgn : g ∉ gs := (List.nodup_cons.1 hnd).1
    have ih := fun a rest => ih (List.nodup_cons.1 hnd).2 (fun h => h0 (List.mem_cons_of_mem _ h)) a rest
    have hk' := keptHead_updateGroupAux g rest hk
    have habs' : run ≠ [] → c ∉ idsOf (updateGroupAux g rest) := by rw [idsOf_updateGroupAux]; exact habs
    rw [updateLoop_cons (a :: run ++ rest) hg0 (keptHead_cons ha), updateLoop_cons rest hg0 hk]
    by_cases hgc : g = c
    · subst hgc
      rw [updateGroupAux_anchor ha hg0 hrun hk habs,
        ih (updA g a run) _ (updA_fst.trans ha) hk' habs', if_neg hgn, if_pos (List.mem_cons_self ..)]
    · have hskip : updateGroupAux g (a :: run ++ rest) = a :: run ++ updateGroupAux g rest :=
        updateGroupAux_skip g (a :: run) rest
          (fun r hr => by
            rcases List.mem_cons.1 hr with rfl | hr'
            · exact ha ▸ hg0.symm
            · exact hrun r hr' ▸ Ne.symm hgc)
          (fun r hr => hk r hr ▸ hg0.symm)
      rw [hskip, ih a _ ha hk' habs']
      simp only [List.mem_cons, Ne.symm hgc, false_or]

/-- largest end among the dropped rows at the head -/
def runEndR : List DRow → Option Int
  | [] => none
  | r :: rest =>
    if r.1 = 0 then none
    else some (match runEndR rest with | some m => max (endTw r.2.1 r.2.2) m | none => endTw r.2.1 r.2.2)

/-- the documented durations, row by row: a kept row followed by dropped rows lasts until their latest end -/
def specRows : List DRow → List DRow
  | [] => []
  | r :: rest =>
    (if r.1 = 0 then
       (match runEndR rest with
        | some m => (r.1, r.2.1, anchorDur r.2.1 r.2.2 m)
        | none => r)
     else r) :: specRows rest

theorem runEndR_keptHead (rest : List DRow) (h : KeptHead rest) : runEndR rest = none := by
  cases rest with
  | nil => rfl
  | cons r rest' => exact if_pos (h r.1 rfl)

theorem runEndR_run {c : Nat} (hc : c ≠ 0) {rest : List DRow} (hk : KeptHead rest) {run : List DRow}
    (h : ∀ r ∈ run, r.1 = c) : runEndR (run ++ rest) = groupMax c run := by
  induction run with
  | nil => exact runEndR_keptHead rest hk
  | cons x run' ih =>
    have hx : x.1 = c := h x (List.mem_cons_self ..)
    have ih := ih fun r hr => h r (List.mem_cons_of_mem _ hr)
    have hx0 : ¬ x.1 = 0 := hx ▸ hc
    have hxc : (x.1 == c) = true := beq_iff_eq.2 hx
    simp only [List.cons_append, runEndR, hx0, if_false, ih, groupMax, List.filter_cons, hxc, if_true,
      List.map_cons, maxList]
    rfl

theorem specRows_run (rest : List DRow) : ∀ run : List DRow, (∀ r ∈ run, r.1 ≠ 0) →
    specRows (run ++ rest) = run ++ specRows rest
  | [], _ => rfl
  | x :: run', h => by
    have hx : ¬ x.1 = 0 := h x (by simp)
    simp [specRows, hx, specRows_run rest run' (fun r hr => h r (by simp [hr]))]

theorem specRows_seg {c : Nat} (hc : c ≠ 0) {a : DRow} {run rest : List DRow} (ha : a.1 = 0)
    (hrun : ∀ r ∈ run, r.1 = c) (hk : KeptHead rest) :
    specRows (a :: run ++ rest) = updA c a run :: run ++ specRows rest := by
  have h1 := runEndR_run hc hk hrun
  have h2 := specRows_run rest run (fun r hr => by rw [hrun r hr]; exact hc)
  simp only [List.cons_append, specRows, ha, if_true, h1, h2, updA]

theorem gen_false_keptHead {c : Nat} {ids : List Nat} (h : Gen false c ids) {rs : List DRow} (hrs : idsOf rs = ids) :
    KeptHead rs := by
  rw [KeptHead, hrs]
  cases h with
  | nil => exact fun _ hi => nomatch hi
  | other | start => exact fun _ hi => (Option.some.inj hi).symm

theorem updateLoop_nil (gs : List Nat) : updateLoop gs [] = .ok [] := by
  induction gs with
  | nil => rfl
  | cons g gs ih => simp [updateLoop, updateGroup, ih]

theorem loop_seg_spec {c : Nat} (hc : c ≠ 0) {a : DRow} (run rest : List DRow) {gs : List Nat} (hnd : gs.Nodup)
    (h0 : 0 ∉ gs) (ha : a.1 = 0) (hrun : ∀ r ∈ run, r.1 = c) (hk : KeptHead rest)
    (habs : run ≠ [] → c ∉ idsOf rest) (hin : run ≠ [] → c ∈ gs)
    (hrest : updateLoop gs rest = .ok (specRows rest)) :
    updateLoop gs (a :: run ++ rest) = .ok (specRows (a :: run ++ rest)) := by
  rw [loop_seg hrun hnd h0 a rest ha hk habs, hrest, specRows_seg hc ha hrun hk]
  cases run with
  | nil => exact congrArg (fun x => Except.ok (x :: specRows rest)) (ite_self a)
  | cons x run' =>
    rw [if_pos (hin (List.cons_ne_nil _ _))]
    rfl

theorem loop_seg_kept (c : Nat) {x : DRow} (rs : List DRow) {gs : List Nat} (hnd : gs.Nodup) (h0 : 0 ∉ gs)
    (hx : x.1 = 0) (hlt : ∀ g ∈ idsOf rs, g ≠ 0 → c < g)
    (hself : updateLoop gs (x :: rs) = .ok (specRows (x :: rs)))
    (a : DRow) (run : List DRow) (ha : a.1 = 0) (hrun : ∀ r ∈ run, r.1 = c) (hc : c ≠ 0) (hin : run ≠ [] → c ∈ gs) :
    updateLoop gs (a :: run ++ x :: rs) = .ok (specRows (a :: run ++ x :: rs)) :=
  loop_seg_spec hc run (x :: rs) hnd h0 ha hrun (keptHead_cons hx)
    (fun _ hmem => (List.mem_cons.1 hmem).elim (fun e => hc (e.trans hx)) fun hm => Nat.lt_irrefl c (hlt c hm hc))
    hin hself

/-- The loop of `_update_durations` computes the documented durations.  The conclusions follow `Gen`'s flag: `rs` on
its own (`b = false`), or behind any anchor row and run of rows numbered `c` (`b = true`; a dropped first row of `rs`
joins that run).  `gs` holds every group number that occurs, once, and not 0. -/
theorem loop_spec (gs : List Nat) (hnd : gs.Nodup) (h0 : 0 ∉ gs) {b : Bool} {c : Nat} {ids : List Nat}
    (h : Gen b c ids) : ∀ (rs : List DRow), idsOf rs = ids → (∀ g ∈ ids, g ≠ 0 → g ∈ gs) →
      (b = false → updateLoop gs rs = .ok (specRows rs)) ∧
      (b = true → ∀ (a : DRow) (run : List DRow), a.1 = 0 → (∀ r ∈ run, r.1 = c) → c ≠ 0 → (run ≠ [] → c ∈ gs) →
          updateLoop gs (a :: run ++ rs) = .ok (specRows (a :: run ++ rs))) := by
  induction h with
  | nil b c =>
    intro rs hrs _
    obtain rfl := List.map_eq_nil_iff.1 hrs
    exact ⟨fun _ => updateLoop_nil gs, fun _ a run ha hrun hc hin =>
      loop_seg_spec hc run [] hnd h0 ha hrun (fun _ hr => nomatch hr) (fun _ => List.not_mem_nil) hin
        (updateLoop_nil gs)⟩
  | other b c ids hgen ih =>
    intro rs hrs hcov
    obtain ⟨x, rs', rfl, hx, hrs'⟩ := List.map_eq_cons_iff.1 hrs
    have ih1 := (ih rs' hrs' fun g hg => hcov g (List.mem_cons_of_mem _ hg)).1 rfl
    have hself : updateLoop gs (x :: rs') = .ok (specRows (x :: rs')) :=
      loop_seg_spec Nat.one_ne_zero [] rs' hnd h0 hx (fun _ hr => nomatch hr)
        (gen_false_keptHead hgen hrs') (fun h => absurd rfl h) (fun h => absurd rfl h) ih1
    exact ⟨fun _ => hself, fun _ => loop_seg_kept c rs' hnd h0 hx
      (fun g hg hne => gen_bound hgen g (hrs' ▸ hg) hne) hself⟩
  | start b c ids hgen ih =>
    intro rs hrs hcov
    obtain ⟨x, rs', rfl, hx, hrs'⟩ := List.map_eq_cons_iff.1 hrs
    have hself : updateLoop gs (x :: rs') = .ok (specRows (x :: rs')) :=
      (ih rs' hrs' fun g hg => hcov g (List.mem_cons_of_mem _ hg)).2 rfl x [] hx
        (fun _ hr => nomatch hr) (Nat.succ_ne_zero c) (fun h => absurd rfl h)
    exact ⟨fun _ => hself, fun _ => loop_seg_kept c rs' hnd h0 hx
      (fun g hg hne => gen_bound hgen g (hrs' ▸ hg) hne) hself⟩
  | drop c ids hc1 hgen ih =>
    intro rs hrs hcov
    obtain ⟨x, rs', rfl, hx, hrs'⟩ := List.map_eq_cons_iff.1 hrs
    refine ⟨fun hb => Bool.noConfusion hb, fun _ a run ha hrun hc hin => ?_⟩
    have := (ih rs' hrs' fun g hg => hcov g (List.mem_cons_of_mem _ hg)).2 rfl a (run ++ [x]) ha
      (fun r hr => (List.mem_append.1 hr).elim (hrun r) fun h1 => List.mem_singleton.1 h1 ▸ hx)
      hc (fun _ => hcov c (List.mem_cons_self ..) hc)
    rwa [List.cons_append, List.append_assoc] at this

theorem foldl_max_le {l : List Nat} {g : Nat} (h : g ∈ l) : g ≤ l.foldl max 0 := by
  rw [List.foldl_max, Nat.zero_max]
  exact List.le_max?_getD_of_mem h

theorem foldl_max_pos (l : List Nat) : 0 < l.foldl max 0 ↔ ∃ g ∈ l, g ≠ 0 := by
  constructor
  · intro h
    rw [List.foldl_max, Nat.zero_max] at h
    cases hm : l.max? with
    | none =>
      rw [hm] at h
      exact absurd h (Nat.lt_irrefl 0)
    | some a =>
      rw [hm] at h
      exact ⟨a, List.max?_mem hm, Nat.ne_of_gt h⟩
  · rintro ⟨g, hg, hne⟩
    exact Nat.lt_of_lt_of_le (Nat.pos_of_ne_zero hne) (foldl_max_le hg)

theorem runEndR_zip : ∀ (groups : List Nat) (O D : Column),
    runEndR (groups.zip (O.zip (D.map toFloat))) = runEnd ((groups.map (· == 0)).zip (O.zip D))
  | [], _, _ | _ :: _, [], _ | _ :: _, _ :: _, [] => by simp [runEndR, runEnd]
  | g :: gs, o :: O, d :: D => by
    have ih := runEndR_zip gs O D
    by_cases hg : g = 0
    · subst hg; simp [runEndR, runEnd]
    · have : (g == 0) = false := beq_false_of_ne hg
      simp [runEndR, runEnd, hg, this, ih, endTw_toFloat]
      rfl

theorem specRows_zip : ∀ (groups : List Nat) (O D : Column),
    (specRows (groups.zip (O.zip (D.map toFloat)))).map (·.2.2) = specDur ((groups.map (· == 0)).zip (O.zip D))
  | [], _, _ | _ :: _, [], _ | _ :: _, _ :: _, [] => by simp [specRows, specDur]
  | g :: gs, o :: O, d :: D => by
    have ih := specRows_zip gs O D
    have hr := runEndR_zip gs O D
    by_cases hg : g = 0
    · subst hg
      simp only [List.map_cons, List.zip_cons_cons, specRows, if_true, hr, specDur, BEq.rfl, ih]
      cases runEnd ((gs.map (· == 0)).zip (O.zip D)) <;> simp
    · have : (g == 0) = false := beq_false_of_ne hg
      simp [specRows, specDur, hg, this, ih]

theorem mergePlan_eq (mrs : List (Bool × Row)) : mergePlanImpl mrs = mergePlanSpec mrs := by
  obtain ⟨hgen, hkeep⟩ := removeGroups_spec mrs
  -- a row is dropped iff a group number is positive: the two tests that guard the durations agree
  have hany : ((removeGroups mrs).map (· == 0)).any (!·) = decide (0 < (removeGroups mrs).foldl max 0) := by
    rw [Bool.eq_iff_iff, List.any_map, List.any_eq_true, decide_eq_true_iff, foldl_max_pos]
    simp
  unfold mergePlanImpl mergePlanSpec
  simp only
  rw [← hkeep, hany]
  congr 1
  funext O D
  by_cases hmx : 0 < (removeGroups mrs).foldl max 0
  · have hloop := (loop_spec (List.range' 1 ((removeGroups mrs).foldl max 0)) (List.nodup_range' ..)
      (by simp [List.mem_range'_1]) (gen_zip (O.zip (D.map toFloat)) hgen)
      ((removeGroups mrs).zip (O.zip (D.map toFloat))) rfl
      (by
        intro g hg hne
        obtain ⟨p, hp, rfl⟩ := List.mem_map.1 hg
        have := foldl_max_le (List.of_mem_zip hp).1
        simp only [List.mem_range'_1]
        omega)).1 rfl
    simp only [gt_iff_lt, hmx, if_true, hloop, decide_true, specRows_zip]
  · simp [hmx]

theorem merge_refines (col : Str) (code : Val) (m : Option (List Str)) (sd i : Bool) (t : Table) :
    mergeImpl col code m sd i t = mergeSpec col code m sd i t := by
  have : mergePlanImpl = mergePlanSpec := funext mergePlan_eq
  unfold mergeImpl mergeSpec
  rw [this]

/-! ### remap_columns -/

/-- `KeyMap.map_dict` when the rows are those of `fs`, numbered from `i` -/
def dictOf : Nat → List (List Str × List Cell) → List (List Str × Nat)
  | _, [] => []
  | i, e :: fs => (e.1, i) :: dictOf (i + 1) fs

theorem dictOf_append (e : List Str × List Cell) : ∀ (i : Nat) (fs : List (List Str × List Cell)),
    dictOf i (fs ++ [e]) = dictOf i fs ++ [(e.1, i + fs.length)]
  | i, [] => by simp [dictOf]
  | i, f :: fs => by
    simp only [List.cons_append, dictOf, dictOf_append e (i + 1) fs, List.length_cons, List.cons.injEq, true_and]
    congr 3
    omega

theorem lookup_dictOf (k : List Str) : ∀ (i : Nat) (fs : List (List Str × List Cell)),
    (dictOf i fs).lookup k = (fs.findIdx? (fun e => k == e.1)).map (· + i)
  | i, [] => by simp [dictOf]
  | i, f :: fs => by
    simp only [dictOf, List.lookup_cons, List.findIdx?_cons]
    cases h : k == f.1
    · simp only [lookup_dictOf k (i + 1) fs, Bool.false_eq_true, if_false, Option.map_map]
      congr 1
      funext n
      simp only [Function.comp]
      omega
    · simp

theorem lookup_dictOf_isSome (k : List Str) (fs : List (List Str × List Cell)) :
    ((dictOf 0 fs).lookup k).isSome = (fs.map (·.1)).contains k := by
  rw [lookup_dictOf, Option.isSome_map, List.findIdx?_isSome, List.contains_eq_any_beq, List.any_map]
  rfl

/-- Invariant of `KeyMap.update`: the state is `⟨dictOf 0 fs, targets of fs⟩`, `fs` the first entry of every key seen
so far. -/
theorem build_rep : ∀ (es fs : List (List Str × List Cell)),
    es.foldl keyMapStep ⟨dictOf 0 fs, fs.map (·.2)⟩
      = ⟨dictOf 0 (fs ++ firstEntries (fs.map (·.1)) es), (fs ++ firstEntries (fs.map (·.1)) es).map (·.2)⟩
  | [], fs => by simp [firstEntries]
  | e :: es, fs => by
    rw [List.foldl_cons]
    have hc := lookup_dictOf_isSome e.1 fs
    cases hs : (fs.map (·.1)).contains e.1
    · rw [hs] at hc
      have hstep : keyMapStep ⟨dictOf 0 fs, fs.map (·.2)⟩ e
          = ⟨dictOf 0 (fs ++ [e]), (fs ++ [e]).map (·.2)⟩ := by
        simp [keyMapStep, hc, dictOf_append]
      rw [hstep, build_rep es (fs ++ [e])]
      simp only [firstEntries, hs, Bool.false_eq_true, if_false]
      simp [List.append_assoc]
    · rw [hs] at hc
      have hstep : keyMapStep ⟨dictOf 0 fs, fs.map (·.2)⟩ e = ⟨dictOf 0 fs, fs.map (·.2)⟩ := by
        simp [keyMapStep, hc]
      rw [hstep, build_rep es fs]
      simp only [firstEntries, hs, if_true]

theorem firstEntries_find {k : List Str} {es : List (List Str × List Cell)} (seen : List (List Str))
    (hk : seen.contains k = false) :
    (firstEntries seen es).find? (fun e => k == e.1) = es.find? (fun e => k == e.1) := by
  fun_induction firstEntries seen es with
  | case1 => rfl
  | case2 seen e es hs ih =>
    have hne : (k == e.1) = false := beq_false_of_ne fun h => Bool.false_ne_true (hk.symm.trans (h ▸ hs))
    rw [List.find?_cons, hne]
    exact ih hk
  | case3 seen e es hs ih =>
    rw [List.find?_cons, List.find?_cons]
    cases hke : k == e.1
    · exact ih (by simpa [ne_of_beq_false hke] using hk)
    · rfl

theorem findIdx_bind_get {α β} (p : α → Bool) (f : α → β) (l : List α) :
    (l.findIdx? p).bind (fun i => (l.map f)[i]?) = (l.find? p).map f := by
  simp only [List.find?_eq_bind_findIdx?_getElem?, Option.map_bind, List.getElem?_map, Function.comp_def]

theorem buildKeyMap_eq (entries : List (List Str × List Cell)) :
    buildKeyMap entries = ⟨dictOf 0 (firstEntries [] entries), (firstEntries [] entries).map (·.2)⟩ := by
  have h := build_rep entries []
  simp only [dictOf, List.map_nil, List.nil_append] at h
  exact h

/-- **A repeated source key: the first map_list row wins.**  Looking a key up in the KeyMap that `update` builds
gives the destination values of the first row with that key, `none` if there is none. -/
theorem remap_first_wins (entries : List (List Str × List Cell)) (k : List Str) :
    ((buildKeyMap entries).dict.lookup k).bind (fun i => (buildKeyMap entries).rows[i]?)
      = (entries.find? (fun e => k == e.1)).map (·.2) := by
  rw [buildKeyMap_eq, lookup_dictOf]
  simp only [Nat.add_zero, Option.map_id']
  rw [findIdx_bind_get, firstEntries_find [] rfl]

theorem remap_refines (src dst : List Str) (ml : List (List Val)) (ign : Bool) (is : Option (List Str))
    (t : Table) : remapImpl src dst ml ign is t = remapSpec src dst ml ign is t := by
  unfold remapImpl remapSpec
  split
  · rfl
  · simp only [buildKeyMap_eq]
    congr 1
    funext k
    rw [lookup_dictOf]
    cases (firstEntries [] (mapEntries src.length (src.length + dst.length) ml)).findIdx? (fun e => k == e.1) <;> simp

/-! ### split_rows -/

/-- the form of a table in which `setCol` can be computed -/
def tab (H : List Str) (f : Str → Column) : Table := H.map fun h => (h, f h)

theorem header_tab (H : List Str) (f : Str → Column) : header (tab H f) = H := by
  simp [header, tab, List.map_map, Function.comp_def]

theorem setCol_tab (H : List Str) (f : Str → Column) (n : Str) (c : Column) :
    setCol (tab H f) n c = tab (if n ∈ H then H else H ++ [n]) (fun h => if h = n then c else f h) := by
  unfold setCol
  rw [header_tab]
  by_cases hn : n ∈ H
  · simp only [hn, if_true, tab, List.map_map]
    apply List.map_congr_left
    intro h _
    simp only [Function.comp]
    split <;> rfl
  · simp only [hn, if_false, tab, List.map_append, List.map_cons, List.map_nil, if_true]
    congr 1
    apply List.map_congr_left
    intro h hh
    have : h ≠ n := fun e => hn (e ▸ hh)
    simp [this]

theorem setCols_tab : ∀ (copies : List (Str × Column)) (H : List Str) (f : Str → Column),
    (∀ p ∈ copies, p.1 ∈ H) →
    setCols (tab H f) copies
      = tab H (fun h => match copies.reverse.lookup h with | some c => c | none => f h)
  | [], H, f, _ => by simp [setCols]
  | (n, c) :: rest, H, f, hmem => by
    have hn : n ∈ H := hmem (n, c) (by simp)
    rw [setCols, setCol_tab, if_pos hn, setCols_tab rest H _ (fun p hp => hmem p (by simp [hp]))]
    unfold tab
    apply List.map_congr_left
    intro h _
    simp only [List.reverse_cons, List.lookup_append, Prod.mk.injEq, true_and]
    cases rest.reverse.lookup h with
    | some c' => simp
    | none =>
      by_cases hh : h = n
      · subst hh; simp [List.lookup]
      · have : (h == n) = false := beq_false_of_ne hh
        simp [List.lookup, this, hh]

theorem eventTable_refines (t : Table) (n : Nat) (anchor : Str) (ev : Str × SplitEvent)
    (hon : onsetName ∈ header t) (hdur : durationName ∈ header t) :
    eventTableImpl t n anchor ev = eventTableSpec t n anchor ev := by
  unfold eventTableImpl eventTableSpec
  cases addSources t (toNumericCol ((t.lookup onsetName).getD [])) ev.2.onsetSrc with
  | error e => rfl
  | ok onsets =>
    simp only
    cases addSources t (List.replicate n (Cell.int 0)) ev.2.duration with
    | error e => rfl
    | ok durs =>
      simp only
      cases hla : lookupAll t (ev.2.copy.getD []) with
      | error e => rfl
      | ok copies =>
        simp only
        have hnames : ∀ p ∈ copies, p.1 ∈ header t := fun p hp =>
          mem_header_iff.2 ⟨p.2, (selectCols_sound (lookupAll_eq t _ ▸ hla)).2 p hp⟩
        have hsub : ∀ x ∈ header t, x ∈ if anchor ∈ header t then header t else header t ++ [anchor] :=
          fun x hx => header_setCol t anchor [] ▸ mem_header_setCol anchor [] hx
        have h0 : ((header t).map fun h => (h, List.replicate n Cell.nan)) = tab (header t) (fun _ => List.replicate n Cell.nan) := rfl
        rw [h0, setCol_tab, if_pos hon, setCol_tab, setCol_tab, if_pos (hsub _ hdur),
          setCols_tab copies _ _ fun p hp => hsub _ (hnames p hp)]
        rfl

theorem splitCore_congr {mk1 mk2 : Table → Nat → Str → Str × SplitEvent → Except OpErr Table}
    (h : ∀ t n a ev, onsetName ∈ header t → durationName ∈ header t → mk1 t n a ev = mk2 t n a ev)
    {anchor : Str} {events : List (Str × SplitEvent)} {rp : Bool} {t : Table} :
    splitCore mk1 anchor events rp t = splitCore mk2 anchor events rp t := by
  unfold splitCore
  by_cases h1 : (!(header t).contains onsetName) = true
  · rw [if_pos h1, if_pos h1]
  · rw [if_neg h1, if_neg h1]
    by_cases h2 : (!(header t).contains durationName) = true
    · rw [if_pos h2, if_pos h2]
    · rw [Bool.not_eq_true, Bool.not_eq_false', List.contains_iff_mem] at h1 h2
      have hf : mk1 t (colD t onsetName).length anchor = mk2 t (colD t onsetName).length anchor :=
        funext fun ev => h t _ anchor ev h1 h2
      simp only [hf]

theorem split_refines (anchor : Str) (events : List (Str × SplitEvent)) (rp : Bool) (t : Table) :
    splitImpl anchor events rp t = splitSpec anchor events rp t :=
  splitCore_congr eventTable_refines

/-! ### the dispatcher -/

theorem opImpl_fst (o : Op) (t : Table) : (opImpl o t).1 = o := by
  cases o with
  | reorderColumns o i k => exact congrArg (Op.reorderColumns · i k) (congrArg Prod.fst (reorder_refines o i k t))
  | _ => rfl

theorem runWith_fst {step : Op → Table → Op × Except OpErr Table} (hs : ∀ o t, (step o t).1 = o)
    {ops : List Op} {t : Table} : (runWith step ops t).1 = ops := by
  fun_induction runWith step ops t with
  | case1 | case2 => rfl
  | case3 o os t _ o' e heq => exact congrArg (· :: os) ((congrArg Prod.fst heq).symm.trans (hs o (prep t)))
  | case4 o os t _ o' t1 heq r ih =>
    have ho : o' = o := (congrArg Prod.fst heq).symm.trans (hs o (prep t))
    exact ho ▸ congrArg (o' :: ·) ih

theorem runManyWith_eq {step : Op → Table → Op × Except OpErr Table} (hs : ∀ o t, (step o t).1 = o) :
    ∀ (ops : List Op) (ts : List Table),
      runManyWith step ops ts = (ops, ts.map fun t => (runWith step ops t).2)
  | ops, [] => rfl
  | ops, t :: ts => by
    simp [runManyWith, runWith_fst hs, runManyWith_eq hs ops ts]

theorem runSt_cons {o : Op} {os : List Op} {t : Table} (h : (header t).Nodup) :
    (runSt (o :: os) t).2 = (opImpl o (prep t)).2.bind fun t1 => (runSt os (post t1)).2 := by
  rw [runSt, runWith, if_neg (not_not_intro h)]
  cases opImpl o (prep t) with
  | mk o' r => cases r <;> rfl

/-! ### running validated lists -/

theorem not_missing {α} (f : α → Str) {xs : List α} {H : List Str} (h : ∀ x ∈ xs, f x ∈ H) :
    ∀ x ∈ xs, ¬ (!H.contains (f x)) = true := by
  intro x hx
  rw [List.contains_iff_mem.2 (h x hx)]
  decide

theorem selectCols_ok : ∀ (names : List Str) (t : Table), (∀ n ∈ names, n ∈ header t) →
    ∃ t', selectCols names t = .ok t'
  | [], t, _ => ⟨[], rfl⟩
  | n :: ns, t, h => by
    obtain ⟨c, hc⟩ := mem_header_iff.1 (h n (by simp))
    obtain ⟨r, hr⟩ := selectCols_ok ns t (fun m hm => h m (by simp [hm]))
    exact ⟨(n, c) :: r, by simp [selectCols, hc, hr]⟩

theorem factorLoop_ok {col : Str} {fv fn : List Str} {t : Table} (hm : col ∈ header t) (hlen : fv.length ≤ fn.length) :
    ∃ t', factorLoop col fv fn t = .ok t' := by
  fun_induction factorLoop col fv fn t with
  | case1 _ t => exact ⟨t, rfl⟩
  | case2 _ _ _ t hl => exact absurd hm (lookup_none_iff.1 hl)
  | case3 => exact absurd hlen (Nat.not_succ_le_zero _)
  | case4 v _ t c _ n _ ih => exact ih (mem_header_setCol n _ hm) (Nat.le_of_succ_le_succ hlen)

/-- what validation guarantees about a modelled operation (`validate_input_data`) -/
def inputOk (o : Op) : Prop := inputDataErrs o = []

theorem factor_lengths (col : Str) (values names : Option (List Str)) (c0 : Column)
    (h : factorInputErrs values names = []) :
    (factorValues (values.getD []) c0).length
      ≤ (factorNames col (names.getD []) (factorValues (values.getD []) c0)).length := by
  unfold factorInputErrs at h
  generalize names.getD [] = ns at h ⊢
  generalize values.getD [] = vs at h ⊢
  cases ns with
  | nil => simp [factorNames]
  | cons n ns =>
    cases vs with
    | nil => simp at h
    | cons v vs =>
      simp at h
      simp [factorNames, factorValues, h]

theorem merge_runs (c : Str) (code : Val) (m : Option (List Str)) (sd i : Bool) (t : Table)
    (hc : ∀ n ∈ namedCols (.mergeConsecutive c code m sd i), n ∈ header t)
    (hk : kindOk (.mergeConsecutive c code m sd i) t = true) : ∃ t', mergeImpl c code m sd i t = .ok t' := by
  rw [merge_refines]
  obtain ⟨c0, hc0⟩ := mem_header_iff.1 (hc c (List.mem_cons_self ..))
  have hcon : (header t).contains c = true := List.contains_iff_mem.2 (hc c (List.mem_cons_self ..))
  have hmiss : ((m.getD []).filter fun e => !(header t).contains e) = [] :=
    List.filter_eq_nil_iff.2 (not_missing id fun e he => hc e (List.mem_cons_of_mem _ (List.mem_append_left _ he)))
  unfold mergeSpec mergeCore
  cases sd with
  | false =>
    simp only [hcon, hmiss, hc0, Bool.not_true, Bool.and_false, Bool.false_and, Bool.false_eq_true, if_false,
      List.isEmpty_nil, Bool.not_false, if_true]
    split <;> exact ⟨_, rfl⟩
  | true =>
    have hoc : (header t).contains onsetName = true :=
      List.contains_iff_mem.2 (hc _ (List.mem_cons_of_mem _ (List.mem_append_right _ (List.mem_cons_self ..))))
    have hdc : (header t).contains durationName = true := List.contains_iff_mem.2
      (hc _ (List.mem_cons_of_mem _ (List.mem_append_right _ (List.mem_cons_of_mem _ (List.mem_cons_self ..)))))
    obtain ⟨hno, hnd⟩ := Bool.and_eq_true_iff.1 hk
    simp only [colD] at hno hnd
    simp only [hcon, hoc, hdc, hmiss, hc0, Bool.not_true, Bool.and_false,
      Bool.false_eq_true, if_false, List.isEmpty_nil, hno, hnd, Bool.or_self]
    split
    · exact ⟨_, rfl⟩
    · simp only [mergePlanSpec]
      generalize (mergeKeep none _).any _ = b
      cases b <;> exact ⟨_, rfl⟩

theorem firstEntries_any (k : List Str) {es : List (List Str × List Cell)}
    (h : es.any (fun e => k == e.1) = true) : (firstEntries [] es).any (fun e => k == e.1) = true := by
  rw [List.any_eq_true, ← List.find?_isSome] at h ⊢
  rwa [firstEntries_find [] rfl]

theorem findIdx?_lt {α} {p : α → Bool} {xs : List α} (h : xs.any p = true) :
    ∃ i, xs.findIdx? p = some i ∧ i < xs.length := by
  rw [← List.findIdx?_isSome, Option.isSome_iff_exists] at h
  obtain ⟨i, hi⟩ := h
  exact ⟨i, hi, (List.findIdx?_eq_some_iff_findIdx_eq.1 hi).1⟩

theorem length_rowsOf (cols : List (List Cell)) (n : Nat) : (rowsOf cols n).length = n := by
  simp [rowsOf]

theorem remap_runs (s d : List Str) (ml : List (List Val)) (i : Bool) (is : Option (List Str)) (t : Table)
    (hs : ∀ n ∈ s, n ∈ header t) (hk : kindOk (.remapColumns s d ml i is) t = true) :
    ∃ t', remapImpl s d ml i is t = .ok t' := by
  rw [remap_refines]
  simp only [kindOk, Bool.and_eq_true] at hk
  obtain ⟨hshape, hrest⟩ := hk
  have hsrc : (s.any fun c => !(header t).contains c) = false := List.any_eq_false.2 (not_missing id hs)
  have hint : ((is.getD []).any fun c => !(header t).contains c) = false := by
    simp only [remapShapeOk, Bool.and_eq_true, List.all_eq_true] at hshape
    exact List.any_eq_false.2 (not_missing id fun c hc => hs c (List.contains_iff_mem.1 (hshape.2 c hc)))
  unfold remapSpec remapCore
  simp only [hshape, Bool.not_true, Bool.false_eq_true, if_false, hsrc, hint]
  simp only [colD] at hrest
  cases hme : mapExcept (fun c => mapExcept (sourceCell ((is.getD []).contains c)) ((t.lookup c).getD [])) s with
  | error e => rw [hme] at hrest; simp at hrest
  | ok srcCols =>
    rw [hme] at hrest
    simp only
    split
    · next hbad =>
      -- the error branch: some row's key has no entry, which `kindOk` excludes
      simp only [Bool.and_eq_true, Bool.not_eq_true', List.any_map, List.any_eq_true, Function.comp] at hbad
      obtain ⟨hi, r, hr, hnone⟩ := hbad
      simp only [hi, Bool.false_or, List.all_eq_true] at hrest
      obtain ⟨idx, hidx, hlt⟩ := findIdx?_lt (firstEntries_any (r.map pyStr) (hrest r hr))
      simp only [hidx, Option.bind_some, Option.isNone_iff_eq_none, List.getElem?_eq_none_iff, colMapRows, length_rowsOf,
        List.length_map] at hnone
      exact absurd hlt (Nat.not_lt.2 hnone)
    · exact ⟨_, rfl⟩

theorem mem_sourceNames (name : Str) (vs : List Val) : name ∈ sourceNames vs ↔ Cell.str name ∈ vs := by
  rw [sourceNames, List.mem_filterMap]
  constructor
  · rintro ⟨v, hv, hs⟩
    cases v with
    | str s => exact Option.some.inj hs ▸ hv
    | _ => exact nomatch (show none = some name from hs)
  · exact fun h => ⟨_, h, rfl⟩

theorem addSources_ok (t : Table) : ∀ (vs : List Val) (acc : Column), (∀ v ∈ vs, v ≠ Cell.nan) →
    (∀ name ∈ sourceNames vs, name ∈ header t ∧ numericCol (colD t name) = true) →
    ∃ c, addSources t acc vs = .ok c
  | [], acc, _, _ => ⟨acc, rfl⟩
  | v :: vs, acc, hnan, hsrc => by
    have hnan' : ∀ v' ∈ vs, v' ≠ Cell.nan := fun v' hv' => hnan v' (List.mem_cons_of_mem _ hv')
    cases v with
    | str name =>
      obtain ⟨hmem, hnum⟩ := hsrc name (List.mem_cons_self ..)
      obtain ⟨c, hc⟩ := mem_header_iff.1 hmem
      simp only [colD, hc, Option.getD_some] at hnum
      simp only [addSources, hc, hnum, Bool.not_true, Bool.false_eq_true, if_false]
      exact addSources_ok t vs _ hnan' fun n hn => hsrc n (List.mem_cons_of_mem _ hn)
    | nan => exact absurd rfl (hnan Cell.nan (List.mem_cons_self ..))
    | int k | flt h => exact addSources_ok t vs _ hnan' hsrc

theorem eventTables_ok {mk : Str × SplitEvent → Except OpErr Table} :
    ∀ evs : List (Str × SplitEvent), (∀ e ∈ evs, ∃ te, mk e = .ok te) → ∃ r, eventTables mk evs = .ok r
  | [], _ => ⟨[], rfl⟩
  | e :: es, h => by
    obtain ⟨te, hte⟩ := h e (by simp)
    obtain ⟨r, hr⟩ := eventTables_ok es (fun e' he' => h e' (by simp [he']))
    exact ⟨te :: r, by simp [eventTables, hte, hr]⟩

theorem split_runs (a : Str) (evs : List (Str × SplitEvent)) (rp : Bool) (t : Table)
    (hc : ∀ n ∈ namedCols (.splitRows a evs rp), n ∈ header t) (hk : kindOk (.splitRows a evs rp) t = true) :
    ∃ t', splitImpl a evs rp t = .ok t' := by
  rw [split_refines]
  have hon : (header t).contains onsetName = true := List.contains_iff_mem.2 (hc _ (List.mem_cons_self ..))
  have hdu : (header t).contains durationName = true :=
    List.contains_iff_mem.2 (hc _ (List.mem_cons_of_mem _ (List.mem_cons_self ..)))
  have hcol : ∀ e ∈ evs, ∀ n ∈ sourceNames e.2.onsetSrc ++ sourceNames e.2.duration ++ e.2.copy.getD [],
      n ∈ header t := fun e he n hn =>
    hc n (List.mem_cons_of_mem _ (List.mem_cons_of_mem _ (List.mem_flatMap.2 ⟨e, he, hn⟩)))
  simp only [kindOk, Bool.and_eq_true, List.all_eq_true, bne_iff_ne, ne_eq] at hk
  obtain ⟨⟨⟨ha, hno⟩, hnd⟩, hev⟩ := hk
  have hevs : ∀ e ∈ evs, ∃ te, eventTableSpec t (colD t onsetName).length a e = .ok te := by
    intro e he
    obtain ⟨hnum, hnan⟩ := hev e he
    have hsrc : ∀ name ∈ sourceNames e.2.onsetSrc ++ sourceNames e.2.duration,
        name ∈ header t ∧ numericCol (colD t name) = true :=
      fun name hin => ⟨hcol e he name (List.mem_append_left _ hin), hnum name hin⟩
    obtain ⟨on, hon'⟩ := addSources_ok t e.2.onsetSrc (toNumericCol ((t.lookup onsetName).getD []))
      (fun v hv => hnan v (List.mem_append_left _ hv)) (fun n hn => hsrc n (List.mem_append_left _ hn))
    obtain ⟨du, hdu'⟩ := addSources_ok t e.2.duration (List.replicate (colD t onsetName).length (Cell.int 0))
      (fun v hv => hnan v (List.mem_append_right _ hv)) (fun n hn => hsrc n (List.mem_append_right _ hn))
    obtain ⟨cp, hcp⟩ := selectCols_ok (e.2.copy.getD []) t fun c hcm => hcol e he c (List.mem_append_right _ hcm)
    simp only [eventTableSpec, hon', hdu', lookupAll_eq, hcp]
    exact ⟨_, rfl⟩
  obtain ⟨r, hr⟩ := eventTables_ok evs hevs
  unfold splitSpec splitCore
  simp only [hon, hdu, Bool.not_true, Bool.false_eq_true, if_false, ha, decide_false, hno, hnd, Bool.or_self, hr]
  exact ⟨_, rfl⟩

theorem op_runs {o : Op} {t : Table} (hv : inputOk o)
    (hc : ∀ n ∈ namedCols o, n ∈ header t) (hk : kindOk o t = true) : ∃ t', (opImpl o t).2 = .ok t' := by
  cases o with
  | removeRows c vs =>
    simp only [opImpl, removeRowsImpl]
    split <;> exact ⟨_, rfl⟩
  | removeColumns cs i =>
    have : (cs.any fun n => !(header t).contains n) = false := List.any_eq_false.2 (not_missing id hc)
    simp only [opImpl, removeColumnsImpl, this, Bool.and_false, Bool.false_eq_true, if_false]
    exact ⟨_, rfl⟩
  | renameColumns m i =>
    have : (m.any fun kv => !(header t).contains kv.1) = false :=
      List.any_eq_false.2 (not_missing Prod.fst fun kv hkv => hc kv.1 (List.mem_map_of_mem hkv))
    simp only [opImpl, renameColumnsImpl, this, Bool.and_false, Bool.false_eq_true, if_false]
    exact ⟨_, rfl⟩
  | reorderColumns o i k =>
    have hmiss : (o.filter fun e => !(header t).contains e) = [] :=
      List.filter_eq_nil_iff.2 (not_missing id hc)
    obtain ⟨t', ht'⟩ : ∃ t', selectCols (if k = true then o ++ (header t).filter (fun e => !o.contains e) else o) t
        = .ok t' := by
      apply selectCols_ok
      intro n hn
      cases k
      · exact hc n hn
      · exact (List.mem_append.1 hn).elim (hc n) fun h => (List.mem_filter.1 h).1
    refine ⟨t', ?_⟩
    simp only [opImpl, reorderImpl, hmiss, List.isEmpty_nil, Bool.not_true, Bool.false_and,
      Bool.false_eq_true, if_false, ht']
  | factorColumn c vs ns =>
    have hm : c ∈ header t := hc c (List.mem_cons_self ..)
    obtain ⟨c0, hc0⟩ := mem_header_iff.1 hm
    obtain ⟨t', ht'⟩ := factorLoop_ok hm (factor_lengths c vs ns c0 hv)
    exact ⟨t', by simp only [opImpl, factorImpl, hc0, ht']⟩
  | mergeConsecutive c code m sd i => exact merge_runs c code m sd i t hc hk
  | remapColumns s d ml i is => exact remap_runs s d ml i is t hc hk
  | splitRows a evs rp => exact split_runs a evs rp t hc hk

theorem runs_ok : ∀ (ops : List Op) (t : Table), (∀ o ∈ ops, inputOk o) → hasColumns ops t = true →
    ∃ t', (runSt ops t).2 = .ok t'
  | [], t, _, _ => ⟨t, rfl⟩
  | o :: os, t, hv, hh => by
    simp only [hasColumns, Bool.and_eq_true, decide_eq_true_eq, List.all_eq_true] at hh
    obtain ⟨⟨⟨hnd, hnamed⟩, hkind⟩, hrest⟩ := hh
    have hnamed' : ∀ n ∈ namedCols o, n ∈ header (prep t) := by
      intro n hn; rw [header_prep]; simpa using hnamed n hn
    obtain ⟨t1, ht1⟩ := op_runs (hv o (by simp)) hnamed' hkind
    rw [ht1] at hrest
    rw [runSt_cons hnd, ht1]
    exact runs_ok os (post t1) (fun o' ho' => hv o' (by simp [ho'])) hrest

theorem errsFrom_nil {α} (f : α → List ErrKind) :
    ∀ (i : Nat) (xs : List α), errsFrom f i xs = [] → ∀ x ∈ xs, f x = []
  | _, [], _, x, hx => by cases hx
  | i, y :: ys, h, x, hx => by
    simp only [errsFrom, List.append_eq_nil_iff, List.map_eq_nil_iff] at h
    rcases List.mem_cons.1 hx with rfl | hx'
    · exact h.1
    · exact errsFrom_nil f (i + 1) ys h.2 x hx'

theorem validateParams_nil {raws : List JVal} (h : validateParams raws = []) :
    ∃ ops, parseOps raws = some ops ∧ errsFrom inputDataErrs 0 ops = [] := by
  unfold validateParams at h
  simp only at h
  split at h
  · next he => rw [h] at he; simp at he
  · cases hp : parseOps raws with
    | none => rw [hp] at h; simp at h
    | some ops =>
      rw [hp] at h
      exact ⟨ops, rfl, h⟩

/-! ## The property -/

/-- **No operation changes its parameters**, also when an exception escapes: the operations a dispatcher holds
after `run_operations` are the ones it was built with. -/
theorem state_constant (ops : List Op) (t : Table) : (runSt ops t).1 = ops :=
  runWith_fst opImpl_fst

/-- when the code's way of computing an operation is its documented meaning: `remove_values` is not empty (PARAMS:
minItems 1); explicit factor names do not reuse the factored column (`validate_input_data` does not check this). -/
def WfOp : Op → Prop
  | .removeRows _ vs => vs ≠ []
  | .factorColumn c _ ns => c ∉ ns.getD []
  | _ => True

/-- **Every `do_op` computes the documented table** (`opSpec`) and leaves its parameters alone, for all eight
operations. -/
theorem impl_refines_spec (o : Op) (t : Table) (h : WfOp o) : opImpl o t = (o, opSpec o t) := by
  cases o with
  | removeRows c vs => simp [opImpl, opSpec, removeRows_refines h]
  | removeColumns cs i => rfl
  | renameColumns m i => rfl
  | reorderColumns o i k => simp [opImpl, opSpec, reorder_refines]
  | factorColumn c vs ns => simp [opImpl, opSpec, factor_refines h]
  | mergeConsecutive c code m sd i => simp [opImpl, opSpec, merge_refines]
  | remapColumns s d ml i is => simp [opImpl, opSpec, remap_refines]
  | splitRows a evs rp => simp [opImpl, opSpec, split_refines]

/-- set_durations never reaches `df_new.loc[-1]`: the loop over the group numbers does not fail -/
theorem merge_durations_total (mrs : List (Bool × Row)) (O D : Column) :
    ∃ r, (mergePlanImpl mrs).newDur O D = .ok r := by
  rw [mergePlan_eq]
  simp only [mergePlanSpec]
  split <;> exact ⟨_, rfl⟩

/-- **Processing order is irrelevant**: any sequence of tables through one dispatcher leaves the operations as
they were and gives, for each table, the result a fresh dispatcher would give. -/
theorem order_independent (ops : List Op) (ts : List Table) :
    runMany ops ts = (ops, ts.map fun t => (runSt ops t).2) :=
  runManyWith_eq opImpl_fst ops ts

theorem order_independent_position (ops : List Op) (before after : List Table) (t : Table) :
    (runMany ops (before ++ t :: after)).2[before.length]? = some (runSt ops t).2 := by
  rw [order_independent]
  simp

/-- **The result for a table is a function of (operations, table) only**, not of what the dispatcher processed
before or after. -/
theorem run_deterministic_function :
    ∃ f : List Op → Table → Except OpErr Table, ∀ (ops : List Op) (before after : List Table) (t : Table),
      (runMany ops (before ++ t :: after)).2[before.length]? = some (f ops t)
        ∧ (runMany ops (before ++ t :: after)).1 = ops :=
  ⟨fun ops t => (runSt ops t).2, fun ops before after t =>
    ⟨order_independent_position ops before after t, by rw [order_independent]⟩⟩

/-- **One operation through the dispatcher is `post_proc_data ∘ do_op ∘ prep_data`** (on a table with unique
labels; any other table is outside the model) -/
theorem run_single_is_post_op_prep (o : Op) (t : Table) (h : (header t).Nodup) :
    (runSt [o] t).2 = (match (opImpl o (prep t)).2 with | .ok t1 => .ok (post t1) | .error e => .error e) := by
  rw [runSt_cons h]
  cases (opImpl o (prep t)).2 <;> rfl

/-- **`run_operations` on a list is the composition of its operations**, each run through a dispatcher of its own
(so wrapped in its own n/a → NaN and NaN → n/a conversions): same table or exception. -/
theorem run_operations_is_composition : ∀ (ops : List Op) (t : Table), (runSt ops t).2 = runOneByOne ops t
  | [], t => rfl
  | o :: os, t => by
    by_cases h : (header t).Nodup
    · rw [runOneByOne, run_single_is_post_op_prep o t h, runSt_cons h]
      cases (opImpl o (prep t)).2 with
      | error e => rfl
      | ok t1 => exact run_operations_is_composition os (post t1)
    · simp [runOneByOne, runSt, runWith, h]

/-- **A validated list runs to completion** on every table that has, at each step, the columns the step names
(unique labels) holding values of the expected kind (`kindOk`): no exception, parameters unchanged. -/
theorem validated_runs (raws : List JVal) (ops : List Op) (t : Table)
    (hvalid : validateParams raws = []) (hparse : parseOps raws = some ops)
    (hcols : hasColumns ops t = true) : ∃ t', run ops t = .ok (t', ops) := by
  obtain ⟨_, hp, he⟩ := validateParams_nil hvalid
  cases hparse.symm.trans hp
  obtain ⟨t', ht'⟩ := runs_ok ops t (errsFrom_nil inputDataErrs 0 ops he) hcols
  exact ⟨t', by simp [run, show runSt ops t = (ops, .ok t') from Prod.ext (state_constant ops t) ht']⟩

/-- **An invalid list is reported and nothing is executed** (no operation object exists). -/
theorem invalid_not_run (raws : List JVal) (ts : List Table) (h : validateParams raws ≠ []) :
    remodel raws ts = .rejected (validateParams raws) := by
  simp [remodel, List.isEmpty_eq_false_iff.2 h]

/-- **n/a cells stay n/a**: `post_proc_data ∘ prep_data` is the identity on tables as they are read (no NaN cell;
n/a cells are text). -/
theorem na_round_trip (t : Table) (h : ∀ p ∈ t, ∀ c ∈ p.2, c ≠ Cell.nan) : post (prep t) = t :=
  mapCells_inverse fun p hp c hc => postCell_prepCell (h p hp c hc)

/-- Between two operations: `prep_data ∘ post_proc_data` is the identity on tables without the text 'n/a'.  (A result
of remap_columns or split_rows may hold that text; the next step reads it as NaN: `hoisted_prep_counterexample`.) -/
theorem na_round_trip_between (t : Table) (h : ∀ p ∈ t, ∀ c ∈ p.2, c ≠ Cell.str naStr) : prep (post t) = t :=
  mapCells_inverse fun p hp c hc => prepCell_postCell (h p hp c hc)

/-- **A list that validates can be parsed**: `Dispatcher(...)` (parse_operations, every `__init__`) does not fail
on it. -/
theorem validated_parses (raws : List JVal) (h : validateParams raws = []) : ∃ ops, parseOps raws = some ops :=
  (validateParams_nil h).imp fun _ => And.left

/-- the validator stops after the JSON-schema pass: `validate_input_data` is only consulted for lists without
schema errors, and then for every operation in list order -/
theorem validate_order (raws : List JVal) :
    (schemaErrors raws ≠ [] → validateParams raws = schemaErrors raws)
    ∧ (schemaErrors raws = [] → ∀ ops, parseOps raws = some ops → validateParams raws = errsFrom inputDataErrs 0 ops) := by
  constructor
  · intro h
    simp [validateParams, List.isEmpty_eq_false_iff.2 h]
  · intro h ops hp
    simp [validateParams, h, hp]

/-- remove_columns (ignore_missing) twice = once -/
theorem removeColumns_idempotent (cs : List Str) (t t1 : Table) (h : removeColumnsImpl cs true t = .ok t1) :
    removeColumnsImpl cs true t1 = .ok t1 := by
  simp only [removeColumnsImpl, Bool.not_true, Bool.false_and, Bool.false_eq_true, if_false, Except.ok.injEq] at h ⊢
  subst h
  simp [List.filter_filter]

/-- remove_rows twice = once (documented meaning; `removeRows_refines` carries it to the code) -/
theorem removeRows_idempotent (col : Str) (vals : List Val) (t t1 : Table) (h : removeRowsSpec col vals t = .ok t1) :
    removeRowsSpec col vals t1 = .ok t1 := by
  unfold removeRowsSpec at h ⊢
  cases hl : t.lookup col with
  | none =>
    rw [hl] at h
    cases h
    rw [hl]
  | some c =>
    rw [hl] at h
    cases h
    -- the second mask is computed on the filtered column
    simp only [lookup_filterRows, hl, Option.map_some, filterRows_filterRows, Bool.and_self]

/-- reorder_columns twice = once (documented meaning; `reorder_refines` carries it to the code) -/
theorem reorder_idempotent (o : List Str) (i k : Bool) (t t1 : Table) (ho : o.Nodup) (ht : (header t).Nodup)
    (h : reorderSpec o i k t = .ok t1) : reorderSpec o i k t1 = .ok t1 := by
  unfold reorderSpec at h ⊢
  split at h
  · cases h
  · next hcond =>
    have hh1 := (selectCols_sound h).1
    -- a listed column is in the result iff it was in the table, so the test and the listed part are as before
    have hF1 : ∀ e ∈ o, (header t1).contains e = (header t).contains e := by
      intro e he
      rw [hh1]
      cases k <;> simp [he]
    have hothers : ((header t1).filter fun e => !o.contains e)
        = (if k = true then (header t).filter (fun e => !o.contains e) else []) := by
      have e1 : (o.filter fun e => (header t).contains e).filter (fun e => !o.contains e) = [] :=
        List.filter_eq_nil_iff.2 fun e he => by simp [(List.mem_filter.1 he).1]
      rw [hh1, List.filter_append, e1]
      cases k <;> simp [List.filter_filter]
    have hnd : (header t1).Nodup := by
      rw [hh1, List.nodup_append]
      refine ⟨ho.filter _, ?_, ?_⟩
      · split
        · exact ht.filter _
        · exact List.nodup_nil
      · intro a ha b hb hab
        subst hab
        have hao : a ∈ o := (List.mem_filter.1 ha).1
        split at hb
        · have := (List.mem_filter.1 hb).2
          simp [hao] at this
        · cases hb
    rw [any_congr' o fun e he => congrArg (!·) (hF1 e he), if_neg hcond, List.filter_congr hF1, hothers]
    have hsel := selectCols_header_self t1 hnd
    rw [hh1] at hsel
    cases k <;> exact hsel

/-- **The column operations do not look at the rows**: they commute with every rearrangement of the rows. -/
theorem column_ops_commute_rows (f : Column → Column) (o : Op) (t : Table)
    (ho : match o with | .removeColumns .. => True | .renameColumns .. => True | .reorderColumns .. => True | _ => False) :
    opSpec o (mapCols f t) = (match opSpec o t with | .ok r => .ok (mapCols f r) | .error e => .error e) := by
  cases o with
  | removeColumns | renameColumns =>
    simp only [opSpec, removeColumnsSpec, removeColumnsImpl, renameColumnsSpec, renameColumnsImpl, header_mapCols]
    split
    · rfl
    · simp [mapCols, List.filter_map, Function.comp_def]
  | reorderColumns o i k =>
    simp only [opSpec, reorderSpec, header_mapCols]
    split
    · rfl
    · rw [selectCols_mapCols]
      cases selectCols _ t <;> rfl
  | _ => exact absurd ho (by simp)

/-- **factor_column with listed values is row-local**: it commutes with every rearrangement `f` of the rows that
is natural in the cells (`f (c.map g) = (f c).map g`: permutations, selections, repetitions of rows) -/
theorem factor_commutes_rows (f : Column → Column) (hf : ∀ (g : Cell → Cell) (c : Column), f (c.map g) = (f c).map g)
    (col : Str) (vals : List Str) (names : Option (List Str)) (t : Table) (hv : vals ≠ []) :
    factorSpec col (some vals) names (mapCols f t)
      = (match factorSpec col (some vals) names t with | .ok r => .ok (mapCols f r) | .error e => .error e) := by
  unfold factorSpec
  rw [lookup_mapCols]
  cases hl : t.lookup col with
  | none => rfl
  | some c0 =>
    have hfv : ∀ c : Column, factorValues ((some vals).getD []) c = vals := by
      intro c
      cases vals with
      | nil => exact absurd rfl hv
      | cons v vs => simp [factorValues]
    simp only [Option.map_some, hfv]
    split
    · rfl
    · refine congrArg Except.ok (List.foldl_hom (mapCols f) fun t' p => ?_)
      have hfc : factorCol (f c0) p.1 = f (factorCol c0 p.1) := by
        unfold factorCol; rw [hf]
      rw [hfc, setCol_mapCols]

/-- **factor_column leaves every column that is not a factor name alone** -/
theorem factor_frame (col : Str) (values names : Option (List Str)) (t t1 : Table)
    (h : factorSpec col values names t = .ok t1) (n : Str)
    (hn : ∀ c0, t.lookup col = some c0 → n ∉ factorNames col (names.getD []) (factorValues (values.getD []) c0)) :
    t1.lookup n = t.lookup n := by
  unfold factorSpec at h
  cases hl : t.lookup col with
  | none => rw [hl] at h; cases h
  | some c0 =>
    rw [hl] at h
    simp only at h
    split at h
    · cases h
    · cases h
      have hn' := hn c0 hl
      generalize factorValues (values.getD []) c0 = fv at hn' ⊢
      generalize factorNames col (names.getD []) fv = fn at hn' ⊢
      have hp : ∀ p ∈ fv.zip fn, p.2 ≠ n := fun p hp hpn => hn' (hpn ▸ (List.of_mem_zip hp).2)
      generalize fv.zip fn = pairs at hp ⊢
      clear hl hn
      induction pairs generalizing t with
      | nil => rfl
      | cons p ps ih =>
        rw [List.foldl_cons, ih _ fun q hq => hp q (List.mem_cons_of_mem _ hq),
          lookup_setCol_ne (hp p (List.mem_cons_self ..))]

/-! ### the unrepaired reorder_columns (DESIGN.md section 8 #12) — regression counter-examples -/

instance {ε α} [DecidableEq ε] [DecidableEq α] : DecidableEq (Except ε α)
  | .ok a, .ok b => if h : a = b then isTrue (by rw [h]) else isFalse (by intro h'; cases h'; exact h rfl)
  | .error a, .error b => if h : a = b then isTrue (by rw [h]) else isFalse (by intro h'; cases h'; exact h rfl)
  | .ok _, .error _ => isFalse (by intro h; cases h)
  | .error _, .ok _ => isFalse (by intro h; cases h)

def tabABC : Table := [(['a'], [.int 1]), (['b'], [.str ['x']]), (['c'], [.int 3])]
def tabAB : Table := [(['a'], [.int 1]), (['b'], [.str ['x']])]
def opBA : Op := .reorderColumns [['b'], ['a']] false true

/-- with `ordered = self.column_order; ordered += …` the parameters change … -/
theorem reorder_old_state_counterexample :
    (runWith opImplOld [opBA] tabABC).1 = [.reorderColumns [['b'], ['a'], ['c']] false true] := by decide +kernel

/-- … and the same table gives a different result after another table has been processed: `a,b` is reordered
when it comes first, and raises ValueError (column `c` "missing") when it comes after `a,b,c` -/
theorem reorder_old_order_counterexample :
    (runManyWith opImplOld [opBA] [tabAB, tabABC]).2[0]? = some (.ok [(['b'], [.str ['x']]), (['a'], [.int 1])])
    ∧ (runManyWith opImplOld [opBA] [tabABC, tabAB]).2[1]? = some (.error (.raised .ValueError)) := by decide +kernel

/-! ### converting once around the whole list is not the same -/

def tabNa : Table := [(['c'], [.str ['1'], .str ['2'], .str ['7'], .str ['1']])]
def opsNa : List Op :=
  [.remapColumns [['c']] [['k']] [[.str ['1'], .str ['g']], [.str ['2'], .str ['s']]] true none,
   .factorColumn ['k'] none none]
def resHeader : Except OpErr Table → Option (List Str) | .ok t => some (header t) | .error _ => none

/-- remap_columns writes the text 'n/a' for the unmapped key `7`; `run_operations` hands it to factor_column as
NaN (factor `k.nan`), a dispatcher that converts only once around the list hands it over as text (factor `k.n/a`) -/
theorem hoisted_prep_counterexample :
    resHeader (runSt opsNa tabNa).2 = some [['c'], ['k'], "k.g".toList, "k.s".toList, "k.nan".toList]
    ∧ resHeader (runHoisted opsNa tabNa) = some [['c'], ['k'], "k.g".toList, "k.s".toList, "k.n/a".toList]
    ∧ (runSt opsNa tabNa).2 = runOneByOne opsNa tabNa
    ∧ runHoisted opsNa tabNa ≠ runOneByOne opsNa tabNa := by
  have h1 : resHeader (runSt opsNa tabNa).2 = some [['c'], ['k'], "k.g".toList, "k.s".toList, "k.nan".toList] := by
    decide +kernel
  have h2 : resHeader (runHoisted opsNa tabNa) = some [['c'], ['k'], "k.g".toList, "k.s".toList, "k.n/a".toList] := by
    decide +kernel
  have h3 := run_operations_is_composition opsNa tabNa
  refine ⟨h1, h2, h3, fun h => ?_⟩
  -- equal results would have equal headers
  rw [h, ← h3, h1] at h2
  exact absurd h2 (by decide)

def rawFactor : JVal := .obj [("operation".toList, .str "factor_column".toList), ("description".toList, .str []),
  ("parameters".toList, .obj [("column_name".toList, .str ['a'])])]
def rawReorder : JVal := .obj [("operation".toList, .str "reorder_columns".toList), ("description".toList, .str []),
  ("parameters".toList, .obj [("column_order".toList, .arr [.str ['b'], .str ['a']]),
    ("ignore_missing".toList, .bool false), ("keep_others".toList, .bool true)])]
def rawBad : JVal := .obj [("operation".toList, .str "factor_column".toList), ("description".toList, .str []),
  ("parameters".toList, .obj [("column_name".toList, .str ['a']), ("factor_names".toList, .arr [.str ['f']])])]

-- a list without optional parameters validates, parses, has its columns, and (by the theorem) runs
example : validateParams [rawFactor, rawReorder] = [] := by decide +kernel
example : parseOps [rawFactor, rawReorder] = some [.factorColumn ['a'] none none, opBA] := by decide +kernel
example : hasColumns [.factorColumn ['a'] none none, opBA] tabABC = true := by decide +kernel
example : validateParams [rawBad] ≠ [] := by decide +kernel
example : validateParams [] ≠ [] := by decide +kernel
example : WfOp opBA ∧ WfOp (.factorColumn ['a'] none none) ∧ WfOp (.removeRows ['a'] [.int 1]) := by
  simp [WfOp, opBA]
example : (runMany [opBA] [tabABC, tabAB]).2[1]? = some (.ok [(['b'], [.str ['x']]), (['a'], [.int 1])]) := by decide +kernel

-- merge_consecutive with set_durations, remap_columns and split_rows on a small events table (onset, duration, code)
def tabEv : Table := [(onsetName, [.int 0, .int 1, .int 3]), (durationName, [.int 1, .int 4, .int 1]),
  (['k'], [.int 2, .int 2, .int 5])]
def opMergeDur : Op := .mergeConsecutive ['k'] (.int 2) none true false
def opRemap : Op := .remapColumns [['k']] [['v']] [[.int 2, .str ['x']], [.int 5, .str ['y']]] false none
def opSplit : Op := .splitRows ['e'] [(['r'], { onsetSrc := [.flt 1], duration := [.int 0], copy := some [['k']] })] true

example : hasColumns [opMergeDur, opRemap] tabEv = true := by decide +kernel
example : hasColumns [opSplit] tabEv = true := by decide +kernel
-- rows 0 and 1 merge: the first lasts until max(0+1, 1+4) = 5; then k is mapped
example : (runSt [opMergeDur, opRemap] tabEv).2 = .ok [(onsetName, [.int 0, .int 3]),
    (durationName, [.flt 10, .flt 2]), (['k'], [.str ['2'], .str ['5']]), (['v'], [.str ['x'], .str ['y']])] := by decide +kernel
-- a response row half a unit after every row, the parents removed
example : (runSt [opSplit] tabEv).2 = .ok [(onsetName, [.flt 1, .flt 3, .flt 7]),
    (durationName, [.int 0, .int 0, .int 0]), (['k'], [.int 2, .int 2, .int 5]),
    (['e'], [.str ['r'], .str ['r'], .str ['r']])] := by decide +kernel

end HedVerif.C17
