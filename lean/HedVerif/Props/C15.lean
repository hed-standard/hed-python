/-
C15 — Search queries obey their documented logic on every annotation.

Theorems about `Query.parse` / `Query.eval` / `Query.isMatch` (lean/HedVerif/Model/Query.lean: the model of
`QueryHandler`, `Expression*.handle_expr`, `SearchResult`), for every expression and every annotation tree (no
assumption on the ids unless stated).  `se = true` selects the code before the repair
`fixes/C15_same_tags_group_identity.diff` (`has_same_tags` compared the result groups by equality): theorems with
`isMatchWith se` hold for both versions, `isMatch = isMatchWith false` is the repaired code.
-/
import HedVerif.Model.Query

namespace HedVerif.Query

variable {se : Bool}

/-! ### annotation trees -/

theorem Node.induct {P : Node → Prop} (tag : ∀ i, P (.tag i))
    (group : ∀ id g ks, (∀ k ∈ ks, P k) → P (.group id g ks)) (n : Node) : P n :=
  Node.rec (motive_1 := P) (motive_2 := fun ks => ∀ k ∈ ks, P k) tag group
    (fun _ hk => nomatch hk)
    (fun _ _ hk hks x hx => (List.mem_cons.1 hx).elim (fun e => e ▸ hk) (hks x)) n

theorem tagsInL_eq (p : Node) (anc : List Node) (l : List Node) :
    tagsInL p anc l = l.flatMap (tagsIn p anc) := by
  induction l with
  | nil => rfl
  | cons k ks ih => rw [tagsInL, ih, List.flatMap_cons]

theorem groupsInL_eq (anc : List Node) (l : List Node) : groupsInL anc l = l.flatMap (groupsIn anc) := by
  induction l with
  | nil => rfl
  | cons k ks ih => rw [groupsInL, ih, List.flatMap_cons]

theorem allGroups_eq (t : Tree) : allGroups t = groupsIn [] t.root := by
  rw [Tree.root, groupsIn]; rfl

theorem truthy_of_mem {k : Node} {ks : List Node} {id : Nat} {g : Bool} (hk : k ∈ ks) :
    (Node.group id g ks).truthy = true := by
  cases ks with
  | nil => cases hk
  | cons _ _ => rfl

theorem tagsIn_parent (p : Node) (anc : List Node) (n : Node) (h : TagHit) :
    h ∈ tagsIn p anc n → h.parent = p ∨ h.parent.truthy = true := by
  induction n using Node.induct generalizing p anc with
  | tag i => intro hm; rw [tagsIn, List.mem_singleton] at hm; exact Or.inl (hm ▸ rfl)
  | group id g ks ih =>
    intro hm
    rw [tagsIn, tagsInL_eq, List.mem_flatMap] at hm
    rcases hm with ⟨k, hk, hm⟩
    rcases ih k hk _ _ hm with h1 | h1
    · exact Or.inr (h1 ▸ truthy_of_mem hk)
    · exact Or.inr h1

theorem allTags_parent_truthy {t : Tree} {h : TagHit} (hm : h ∈ allTags t) : h.parent.truthy = true := by
  rw [allTags, tagsInL_eq, List.mem_flatMap] at hm
  rcases hm with ⟨k, hk, hm⟩
  rcases tagsIn_parent _ _ _ _ hm with h1 | h1
  · exact h1 ▸ truthy_of_mem hk
  · exact h1

theorem groupsIn_closed (anc : List Node) (n : Node) (gh : GroupHit) :
    gh ∈ groupsIn anc n →
      gh.anc = anc ∨ ∃ p rest, gh.anc = p :: rest ∧ (⟨p, rest⟩ : GroupHit) ∈ groupsIn anc n := by
  induction n using Node.induct generalizing anc with
  | tag i => intro hm; cases hm
  | group id g ks ih =>
    intro hm
    rw [groupsIn, groupsInL_eq] at hm ⊢
    rw [List.mem_cons, List.mem_flatMap] at hm
    rcases hm with rfl | ⟨k, hk, hm⟩
    · exact Or.inl rfl
    · right
      rcases ih k hk _ hm with h1 | ⟨p, rest, h1, h2⟩
      · exact ⟨_, _, h1, List.mem_cons_self⟩
      · exact ⟨p, rest, h1, List.mem_cons_of_mem _ (List.mem_flatMap.2 ⟨k, hk, h2⟩)⟩

theorem allGroups_closed {t : Tree} {gh : GroupHit} (h : gh ∈ allGroups t) {p : Node} {rest : List Node}
    (ha : gh.anc = p :: rest) : (⟨p, rest⟩ : GroupHit) ∈ allGroups t := by
  rw [allGroups_eq] at h ⊢
  rcases groupsIn_closed _ _ _ h with h1 | ⟨p', rest', h1, h2⟩
  · rw [h1] at ha; cases ha
  · rw [h1] at ha; cases ha; exact h2

theorem tagsIn_group (p : Node) (anc : List Node) (n : Node) (h : TagHit) :
    h ∈ tagsIn p anc n →
      (h.parent = p ∧ h.anc = anc) ∨ (⟨h.parent, h.anc⟩ : GroupHit) ∈ groupsIn (p :: anc) n := by
  induction n using Node.induct generalizing p anc with
  | tag i => intro hm; rw [tagsIn, List.mem_singleton] at hm; exact Or.inl (hm ▸ ⟨rfl, rfl⟩)
  | group id g ks ih =>
    intro hm
    rw [tagsIn, tagsInL_eq, List.mem_flatMap] at hm
    rcases hm with ⟨k, hk, hm⟩
    right
    rw [groupsIn, groupsInL_eq]
    rcases ih k hk _ _ hm with ⟨h1, h2⟩ | h1
    · rw [h1, h2]; exact List.mem_cons_self
    · exact List.mem_cons_of_mem _ (List.mem_flatMap.2 ⟨k, hk, h1⟩)

theorem allTags_good {t : Tree} {h : TagHit} (hm : h ∈ allTags t) :
    (⟨h.parent, h.anc⟩ : GroupHit) ∈ allGroups t := by
  rw [allTags, tagsInL_eq, List.mem_flatMap] at hm
  rcases hm with ⟨k, hk, hm⟩
  rw [allGroups, groupsInL_eq]
  rcases tagsIn_group _ _ _ _ hm with ⟨h1, h2⟩ | h1
  · rw [h1, h2]; exact List.mem_cons_self
  · exact List.mem_cons_of_mem _ (List.mem_flatMap.2 ⟨k, hk, h1⟩)

theorem groupsIn_anc (anc : List Node) (n : Node) (gh : GroupHit) :
    gh ∈ groupsIn anc n → gh.anc = anc ∨ ∃ p rest, gh.anc = p :: rest ∧ p.truthy = true := by
  induction n using Node.induct generalizing anc with
  | tag i => intro hm; cases hm
  | group id g ks ih =>
    intro hm
    rw [groupsIn, groupsInL_eq, List.mem_cons, List.mem_flatMap] at hm
    rcases hm with rfl | ⟨k, hk, hm⟩
    · exact Or.inl rfl
    · right
      rcases ih k hk _ hm with h1 | h1
      · exact ⟨_, _, h1, truthy_of_mem hk⟩
      · exact h1

theorem allGroups_parent_truthy {t : Tree} {gh : GroupHit} (h : gh ∈ allGroups t) {p : Node}
    {rest : List Node} (ha : gh.anc = p :: rest) : p.truthy = true := by
  rw [allGroups_eq] at h
  rcases groupsIn_anc _ _ _ h with h1 | ⟨p', rest', h1, h2⟩
  · rw [h1] at ha; cases ha
  · rw [h1] at ha; cases ha; exact h2

/-! ### reordering siblings in a tree -/

def Node.isTag : Node → Bool
  | .tag _ => true
  | .group _ _ _ => false

/-- what the evaluator reads of a node apart from its children: identity, kind, `is_group`, number of children -/
def ι (n : Node) : Nat × Bool × Bool × Nat := (n.id, n.isTag, n.isGroupFlag, n.kids.length)

/-- what a wildcard reads of a child -/
def κ (n : Node) : Nat × Bool := (n.id, n.isTag)

mutual
/-- `n'` is `n` with the children of any of its groups, at any depth, reordered -/
def Shuf : Node → Node → Prop
  | .tag i, n' => n' = .tag i
  | .group id g ks, n' => ∃ ks', n' = .group id g ks' ∧ ShufL ks ks'
/-- `l'` is a permutation of the list obtained from `l` by reordering inside each member -/
def ShufL : List Node → List Node → Prop
  | [], l' => l' = []
  | k :: ks, l' => ∃ k' ks', Shuf k k' ∧ ShufL ks ks' ∧ (k' :: ks').Perm l'
end

def ShufT (t t' : Tree) : Prop := t'.id = t.id ∧ ShufL t.kids t'.kids

theorem shuf_κ {n n' : Node} (h : Shuf n n') : κ n = κ n' := by
  cases n with
  | tag i => rw [Shuf] at h; rw [h]
  | group id g ks =>
    rw [Shuf] at h
    rcases h with ⟨ks', rfl, _⟩
    rfl

theorem shufL_κ : ∀ (l l' : List Node), ShufL l l' → (l.map κ).Perm (l'.map κ)
  | [], l', h => by rw [ShufL] at h; subst h; exact List.Perm.refl _
  | k :: ks, l', h => by
    rw [ShufL] at h
    rcases h with ⟨k', ks', h1, h2, hp⟩
    refine List.Perm.trans ?_ (hp.map κ)
    rw [List.map_cons, List.map_cons, shuf_κ h1]
    exact List.Perm.cons _ (shufL_κ ks ks' h2)

theorem shuf_ι {n n' : Node} (h : Shuf n n') : ι n = ι n' := by
  cases n with
  | tag i => rw [Shuf] at h; rw [h]
  | group id g ks =>
    rw [Shuf] at h
    rcases h with ⟨ks', rfl, hl⟩
    have hlen := (shufL_κ ks ks' hl).length_eq
    rw [List.length_map, List.length_map] at hlen
    show (id, false, g, ks.length) = (id, false, g, ks'.length)
    rw [hlen]

theorem ι_id {a b : Node} (h : ι a = ι b) : a.id = b.id := congrArg (·.1) h
theorem ι_tag {a b : Node} (h : ι a = ι b) : a.isTag = b.isTag := congrArg (·.2.1) h
theorem ι_flag {a b : Node} (h : ι a = ι b) : a.isGroupFlag = b.isGroupFlag := congrArg (·.2.2.1) h
theorem ι_len {a b : Node} (h : ι a = ι b) : a.kids.length = b.kids.length := congrArg (·.2.2.2) h

theorem truthy_eq (n : Node) : n.truthy = (n.isTag || decide (n.kids.length ≠ 0)) := by
  cases n with
  | tag i => rfl
  | group id g ks => cases ks <;> rfl

theorem ι_truthy {a b : Node} (h : ι a = ι b) : a.truthy = b.truthy := by
  rw [truthy_eq, truthy_eq, ι_tag h, ι_len h]

/-- one direction of "the same results up to `R`" -/
def Sub {α : Type} (R : α → α → Prop) (l l' : List α) : Prop := ∀ x ∈ l, ∃ y ∈ l', R x y

theorem Sub.append {α : Type} {R : α → α → Prop} {a a' b b' : List α} (h1 : Sub R a a') (h2 : Sub R b b') :
    Sub R (a ++ b) (a' ++ b') := by
  intro x hx
  rcases List.mem_append.1 hx with h | h
  · rcases h1 x h with ⟨y, hy, hr⟩; exact ⟨y, List.mem_append_left _ hy, hr⟩
  · rcases h2 x h with ⟨y, hy, hr⟩; exact ⟨y, List.mem_append_right _ hy, hr⟩

section
variable {α β : Type} {R : α → α → Prop} {S : β → β → Prop}

theorem Sub.nil {l : List α} : Sub R [] l := fun _ hx => nomatch hx

theorem Sub.isEmpty_eq {l l' : List α} (h : Sub R l l') (h' : Sub R l' l) : l.isEmpty = l'.isEmpty := by
  cases l with
  | nil =>
    cases l' with
    | nil => rfl
    | cons y _ => rcases h' y List.mem_cons_self with ⟨_, hx, _⟩; cases hx
  | cons x _ =>
    cases l' with
    | nil => rcases h x List.mem_cons_self with ⟨_, hy, _⟩; cases hy
    | cons _ _ => rfl

theorem Sub.single {x y : α} (h : R x y) : Sub R [x] [y] :=
  fun _ hx => ⟨y, List.mem_singleton_self y, List.mem_singleton.1 hx ▸ h⟩

theorem Sub.of_mem {a a' b b' : List α} (h : Sub R a a') (ha : b ⊆ a) (ha' : a' ⊆ b') : Sub R b b' := by
  intro x hx
  rcases h x (ha hx) with ⟨y, hy, hr⟩
  exact ⟨y, ha' hy, hr⟩

theorem Sub.filter {l l' : List α} {p q : α → Bool} (h : Sub R l l')
    (hpq : ∀ x y, R x y → p x = true → q y = true) : Sub R (l.filter p) (l'.filter q) := by
  intro x hx
  rcases h x (List.mem_filter.1 hx).1 with ⟨y, hy, hr⟩
  exact ⟨y, List.mem_filter.2 ⟨hy, hpq x y hr (List.mem_filter.1 hx).2⟩, hr⟩

theorem Sub.map {l l' : List α} {f g : α → β}
    (h : Sub R l l') (hfg : ∀ x y, R x y → S (f x) (g y)) : Sub S (l.map f) (l'.map g) := by
  intro z hz
  rcases List.mem_map.1 hz with ⟨x, hx, rfl⟩
  rcases h x hx with ⟨y, hy, hr⟩
  exact ⟨g y, List.mem_map_of_mem hy, hfg x y hr⟩

theorem Sub.flatMap {l l' : List α} {f g : α → List β}
    (h : Sub R l l') (hfg : ∀ x y, R x y → Sub S (f x) (g y)) : Sub S (l.flatMap f) (l'.flatMap g) := by
  intro z hz
  rcases List.mem_flatMap.1 hz with ⟨x, hx, hzx⟩
  rcases h x hx with ⟨y, hy, hr⟩
  rcases hfg x y hr z hzx with ⟨w, hw, hs⟩
  exact ⟨w, List.mem_flatMap.2 ⟨y, hy, hw⟩, hs⟩

end

/-- the step from nodes to lists of nodes, for `tagsIn` and `groupsIn` alike -/
theorem shufL_flatMap {α : Type} {R : α → α → Prop} {f f' : Node → List α} :
    ∀ (l l' : List Node), ShufL l l' →
      (∀ k ∈ l, ∀ k', Shuf k k' → Sub R (f k) (f' k') ∧ Sub R (f' k') (f k)) →
      Sub R (l.flatMap f) (l'.flatMap f') ∧ Sub R (l'.flatMap f') (l.flatMap f)
  | [], l', h, _ => by
    rw [ShufL] at h; subst h
    exact ⟨Sub.nil, Sub.nil⟩
  | k :: ks, l', h, hf => by
    rw [ShufL] at h
    rcases h with ⟨k', ks', h1, h2, hperm⟩
    have i1 := hf k List.mem_cons_self k' h1
    have i2 := shufL_flatMap ks ks' h2 (fun x hx => hf x (List.mem_cons_of_mem _ hx))
    have hp := hperm.flatMap_right f'
    rw [List.flatMap_cons] at hp ⊢
    exact ⟨(i1.1.append i2.1).of_mem (List.Subset.refl _) hp.subset,
      (i1.2.append i2.2).of_mem hp.symm.subset (List.Subset.refl _)⟩

/-- tag hits the evaluator cannot tell apart -/
def TH (h h' : TagHit) : Prop := h.info = h'.info ∧ ι h.parent = ι h'.parent ∧ h.anc.map ι = h'.anc.map ι

/-- group hits the evaluator cannot tell apart (children up to their order) -/
def GH (g g' : GroupHit) : Prop :=
  ι g.group = ι g'.group ∧ (g.group.kids.map κ).Perm (g'.group.kids.map κ) ∧ g.anc.map ι = g'.anc.map ι

theorem TH.symm {r r' : TagHit} (h : TH r r') : TH r' r := ⟨h.1.symm, h.2.1.symm, h.2.2.symm⟩
theorem GH.symm {r r' : GroupHit} (h : GH r r') : GH r' r := ⟨h.1.symm, h.2.1.symm, h.2.2.symm⟩

theorem shuf_tagsIn (p p' : Node) (anc anc' : List Node) (hp : ι p = ι p') (ha : anc.map ι = anc'.map ι) :
    ∀ (n n' : Node), Shuf n n' →
      Sub TH (tagsIn p anc n) (tagsIn p' anc' n') ∧ Sub TH (tagsIn p' anc' n') (tagsIn p anc n) := by
  intro n
  induction n using Node.induct generalizing p p' anc anc' with
  | tag i =>
    intro n' h
    rw [Shuf] at h; subst h
    exact ⟨Sub.single ⟨rfl, hp, ha⟩, Sub.single ⟨rfl, hp.symm, ha.symm⟩⟩
  | group id g ks ih =>
    intro n' h
    have hι := shuf_ι h
    rw [Shuf] at h
    rcases h with ⟨ks', rfl, hl⟩
    rw [tagsIn, tagsIn, tagsInL_eq, tagsInL_eq]
    exact shufL_flatMap ks ks' hl fun k hk k' hs =>
      ih k hk _ _ (p :: anc) (p' :: anc') hι (by rw [List.map_cons, List.map_cons, hp, ha]) k' hs

theorem shuf_groupsIn (anc anc' : List Node) (ha : anc.map ι = anc'.map ι) :
    ∀ (n n' : Node), Shuf n n' →
      Sub GH (groupsIn anc n) (groupsIn anc' n') ∧ Sub GH (groupsIn anc' n') (groupsIn anc n) := by
  intro n
  induction n using Node.induct generalizing anc anc' with
  | tag i =>
    intro n' h
    rw [Shuf] at h; subst h
    exact ⟨Sub.nil, Sub.nil⟩
  | group id g ks ih =>
    intro n' h
    have hι := shuf_ι h
    rw [Shuf] at h
    rcases h with ⟨ks', rfl, hl⟩
    have hk := shufL_κ ks ks' hl
    have hs := shufL_flatMap ks ks' hl fun k hk k' hs =>
      ih k hk (.group id g ks :: anc) (.group id g ks' :: anc')
        (by rw [List.map_cons, List.map_cons, hι, ha]) k' hs
    rw [groupsIn, groupsIn, groupsInL_eq, groupsInL_eq]
    exact ⟨(Sub.single ⟨hι, hk, ha⟩).append hs.1, (Sub.single ⟨hι.symm, hk.symm, ha.symm⟩).append hs.2⟩

theorem shufL_refl {l : List Node} (h : ∀ k ∈ l, Shuf k k) : ShufL l l := by
  induction l with
  | nil => rw [ShufL]
  | cons k ks ih =>
    rw [ShufL]
    exact ⟨k, ks, h k List.mem_cons_self, ih fun x hx => h x (List.mem_cons_of_mem _ hx), List.Perm.refl _⟩

theorem shuf_refl (n : Node) : Shuf n n := by
  induction n using Node.induct with
  | tag i => rw [Shuf]
  | group id g ks ih => rw [Shuf]; exact ⟨ks, rfl, shufL_refl ih⟩

/-! ### grouping symbols and the tokenizer -/

inductive BK where
  | paren | sq | curly
deriving DecidableEq, Repr

inductive Br where
  | op (k : BK)
  | cl (k : BK)
deriving DecidableEq, Repr

/-- read grouping symbols with a stack of the open ones; `none` = a closing symbol without its partner -/
def scan : List BK → List Br → Option (List BK)
  | st, [] => some st
  | st, .op k :: r => scan (k :: st) r
  | [], .cl _ :: _ => none
  | k' :: st, .cl k :: r => if k = k' then scan st r else none

def Balanced (bs : List Br) : Prop := scan [] bs = some []

def brOfChar (c : Char) : Option Br :=
  if c = '(' then some (.op .paren) else if c = ')' then some (.cl .paren)
  else if c = '[' then some (.op .sq) else if c = ']' then some (.cl .sq)
  else if c = '{' then some (.op .curly) else if c = '}' then some (.cl .curly)
  else none

def textBrs (s : Str) : List Br := s.filterMap brOfChar

def brOfKind : Kind → Option Br
  | .parenOpen => some (.op .paren) | .parenClose => some (.cl .paren)
  | .descOpen => some (.op .sq) | .descClose => some (.cl .sq)
  | .exactOpen => some (.op .curly) | .exactClose => some (.cl .curly)
  | _ => none

def brOf (t : Token) : Option Br := brOfKind t.kind
def brs (ts : List Token) : List Br := ts.filterMap brOf

theorem brs_append (a b : List Token) : brs (a ++ b) = brs a ++ brs b := List.filterMap_append

theorem brs_cons (t : Token) (ts : List Token) : brs (t :: ts) = (brOf t).toList ++ brs ts := by
  rw [brs, List.filterMap_cons]
  cases brOf t <;> rfl

theorem brOf_of_kind {t : Token} {k : Kind} (h : t.kind = k) : brOf t = brOfKind k := by
  rw [brOf, h]

theorem textBrs_cons (c : Char) (s : Str) : textBrs (c :: s) = (brOfChar c).toList ++ textBrs s := by
  rw [textBrs, List.filterMap_cons]
  cases brOfChar c <;> rfl

def brChars : List Char := ['(', ')', '[', ']', '{', '}']

theorem brOfChar_none {c : Char} (h : c ∉ brChars) : brOfChar c = none := by
  simp only [brChars, List.mem_cons, List.not_mem_nil, or_false, not_or] at h
  obtain ⟨h1, h2, h3, h4, h5, h6⟩ := h
  rw [brOfChar, if_neg h1, if_neg h2, if_neg h3, if_neg h4, if_neg h5, if_neg h6]

/-- a grouping character ends a run, is a token of its own kind, and is left alone by `casefold` -/
theorem brChars_class : ∀ c ∈ brChars, isWordChar c = false ∧
    ((c == '[' || c == ']') ||
      (c == '{' || c == '}' || c == ':' || c == '(' || c == ')' || c == '~' || c == ',')) = true ∧
    brOf (mkTok [c]) = brOfChar c ∧ ¬ (65 ≤ c.toNat ∧ c.toNat ≤ 90) := by
  decide +kernel

theorem brOf_double {c : Char} (h : (c == '&' || c == '|') = true) :
    brOf (mkTok [c, c]) = none ∧ brOfChar c = none := by
  simp only [Bool.or_eq_true, beq_iff_eq] at h
  rcases h with rfl | rfl <;> exact ⟨rfl, rfl⟩

def BrRow (text : Str) (k : Kind) : Prop := brOfKind k = none ∨ ∃ c, text = [c] ∧ c ∈ brChars

theorem BrRow.ite {text s : Str} {a b : Kind} (ha : text = s → BrRow text a) (hb : BrRow text b) :
    BrRow text (if text = s then a else b) := by
  by_cases h : text = s
  · rw [if_pos h]; exact ha h
  · rw [if_neg h]; exact hb

/-- the table of `kindOf`, row by row -/
theorem kindOf_br (text : Str) : BrRow text (kindOf text) := by
  have no {k : Kind} (h : brOfKind k = none) : BrRow text k := .inl h
  have br {s : Str} {k : Kind} (c : Char) (hc : c ∈ brChars) (hs : s = [c]) (h : text = s) : BrRow text k :=
    .inr ⟨c, h.trans hs, hc⟩
  unfold kindOf
  exact .ite (fun _ => no rfl) <| .ite (fun _ => no rfl) <| .ite (fun _ => no rfl) <|
    .ite (br '[' (by decide) rfl) <| .ite (br ']' (by decide) rfl) <|
    .ite (br '(' (by decide) rfl) <| .ite (br ')' (by decide) rfl) <|
    .ite (fun _ => no rfl) <| .ite (fun _ => no rfl) <| .ite (fun _ => no rfl) <| .ite (fun _ => no rfl) <|
    .ite (br '{' (by decide) rfl) <| .ite (br '}' (by decide) rfl) <|
    .ite (fun _ => no rfl) <| .ite (fun _ => no rfl) <| no rfl

theorem brOf_single (c : Char) : brOf (mkTok [c]) = brOfChar c := by
  by_cases hc : c ∈ brChars
  · exact (brChars_class c hc).2.2.1
  · rw [brOfChar_none hc]
    rcases kindOf_br [c] with h | ⟨x, hx, hm⟩
    · exact h
    · cases hx
      exact absurd hm hc

/-- the pending run holds no grouping character -/
def BufOK (buf : Str) : Prop := ∀ c ∈ buf, c ∉ brChars

theorem BufOK.nil : BufOK [] := fun _ hc => nomatch hc

theorem BufOK.cons {c : Char} {buf : Str} (hc : c ∉ brChars) (hb : BufOK buf) : BufOK (c :: buf) :=
  List.forall_mem_cons.2 ⟨hc, hb⟩

theorem flush_brs {buf : Str} (h : BufOK buf) : brs (flush buf) = [] := by
  unfold flush
  split
  · rfl
  · rename_i c cs
    rcases kindOf_br (c :: cs).reverse with hk | ⟨x, ht, hx⟩
    · rw [brs_cons, brOf, mkTok, hk]; rfl
    · refine absurd hx (h x ?_)
      rw [← List.mem_reverse, ht]
      exact List.mem_singleton_self x

theorem tokGo_nil (lg skip : Bool) (buf : Str) : tokGo lg skip [] buf = flush buf := by
  rw [tokGo.eq_def]

theorem tokGo_skip (lg : Bool) (c : Char) (rest buf : Str) :
    tokGo lg true (c :: rest) buf = tokGo lg false rest buf := by
  rw [tokGo.eq_def]

theorem tokGo_brs (cs : Str) : ∀ (skip : Bool) (buf : Str), BufOK buf →
    brs (tokGo false skip cs buf) = textBrs (if skip then cs.drop 1 else cs) := by
  induction cs with
  | nil =>
    intro skip buf hb
    rw [tokGo_nil, flush_brs hb]
    cases skip <;> rfl
  | cons c rest ih =>
    intro skip buf hb
    cases skip with
    | true => rw [tokGo_skip]; exact ih false buf hb
    | false =>
      have ih0 : ∀ buf', BufOK buf' → brs (tokGo false false rest buf') = textBrs rest := ih false
      show brs (tokGo false false (c :: rest) buf) = textBrs (c :: rest)
      rw [tokGo.eq_def, textBrs_cons]
      dsimp only
      by_cases hw : isWordChar c = true
      · have hc : c ∉ brChars := fun hm => Bool.false_ne_true ((brChars_class c hm).1.symm.trans hw)
        rw [if_pos hw, brOfChar_none hc]
        split
        · rw [brs_append, flush_brs hb, ih0 [c] (.cons hc .nil)]; rfl
        · rw [ih0 (c :: buf) (.cons hc hb)]; rfl
      rw [if_neg hw]
      by_cases hq : (c == '?') = true
      · have hc : '?' ∉ brChars := by decide
        rw [if_pos hq, beq_iff_eq.1 hq, brOfChar_none hc]
        split
        · rw [ih0 _ (.cons hc .nil)]; rfl
        · rw [ih0 _ (.cons hc hb)]; rfl
        · rw [brs_append, flush_brs hb, ih0 _ (.cons hc .nil)]; rfl
      rw [if_neg hq, brs_append, flush_brs hb, List.nil_append]
      by_cases h1 : (c == '&' || c == '|') = true
      · have hd := brOf_double h1
        rw [if_pos h1, hd.2]
        split
        · rename_i hh
          rw [brs_cons, hd.1, ih true [] .nil]
          cases rest with
          | nil => cases hh
          | cons d rest' =>
            cases Option.some.inj (beq_iff_eq.1 hh)
            show textBrs rest' = textBrs (_ :: rest')
            rw [textBrs_cons, hd.2]; rfl
        · exact ih0 [] .nil
      rw [if_neg h1]
      by_cases h2 : (c == '[' || c == ']') = true
      · rw [if_pos h2, Bool.false_and, if_neg Bool.false_ne_true, brs_cons, ih0 [] .nil, brOf_single]
      rw [if_neg h2]
      by_cases h3 : (c == '{' || c == '}' || c == ':' || c == '(' || c == ')' || c == '~' || c == ',') = true
      · rw [if_pos h3, brs_cons, ih0 [] .nil, brOf_single]
      · rw [if_neg h3, ih0 [] .nil, brOfChar_none fun hm => ?_]
        · rfl
        · exact (Bool.or_eq_true_iff.1 (brChars_class c hm).2.1).elim h2 h3

theorem tokenize_brs (s : Str) : brs (tokenize s) = textBrs s :=
  tokGo_brs s false [] .nil

/-- the small letters are no grouping characters -/
theorem fold_upper : ∀ n, n < 91 → 65 ≤ n → brOfChar (Char.ofNat (n + 32)) = none := by decide +kernel

theorem brOfChar_fold (c : Char) :
    brOfChar (if 65 ≤ c.toNat && c.toNat ≤ 90 then Char.ofNat (c.toNat + 32) else c) = brOfChar c := by
  split
  · rename_i h
    rw [Bool.and_eq_true, decide_eq_true_eq, decide_eq_true_eq] at h
    rw [fold_upper c.toNat (by omega) h.1, brOfChar_none fun hm => (brChars_class c hm).2.2.2 h]
  · rfl

theorem asciiFold_brs (s : Str) : textBrs (asciiFold s) = textBrs s := by
  unfold textBrs asciiFold
  rw [List.filterMap_map, Function.comp_def, funext brOfChar_fold]

/-! ### the parser -/

/-- a stretch of grouping symbols that leaves every stack as it found it -/
def Neutral (bs : List Br) : Prop := ∀ st rest, scan st (bs ++ rest) = scan st rest

theorem neutral_nil : Neutral [] := fun _ _ => rfl

theorem neutral_append {a b : List Br} (ha : Neutral a) (hb : Neutral b) : Neutral (a ++ b) := by
  intro st rest; rw [List.append_assoc, ha, hb]

theorem neutral_wrap {bs : List Br} {k : BK} (h : Neutral bs) : Neutral (.op k :: (bs ++ [.cl k])) := by
  intro st rest
  rw [List.cons_append, List.append_assoc]
  simp only [scan]
  rw [h]
  simp [scan]

/-- `ts = c ++ r` with `c` of at least `n` tokens and, for the repaired parser, neutral -/
def Seg (lg : Bool) (n : Nat) (ts r : List Token) : Prop :=
  ∃ c, ts = c ++ r ∧ n ≤ c.length ∧ (lg = false → Neutral (brs c))

section
variable {lg : Bool} {n m : Nat} {P Q : List Token → Prop}

theorem Seg.refl {ts : List Token} : Seg lg 0 ts ts :=
  ⟨[], rfl, Nat.le_refl _, fun _ => neutral_nil⟩

theorem Seg.len {ts r : List Token} (h : Seg lg n ts r) : r.length + n ≤ ts.length := by
  rcases h with ⟨c, rfl, hn, _⟩
  rw [List.length_append]
  omega

theorem Seg.zero {ts r : List Token} (h : Seg lg n ts r) : Seg lg 0 ts r := by
  rcases h with ⟨c, hc, _, hb⟩
  exact ⟨c, hc, Nat.zero_le _, hb⟩

theorem Seg.trans {a b c : List Token} (h1 : Seg lg n a b) (h2 : Seg lg m b c) :
    Seg lg (n + m) a c := by
  rcases h1 with ⟨c1, rfl, l1, n1⟩
  rcases h2 with ⟨c2, rfl, l2, n2⟩
  refine ⟨c1 ++ c2, (List.append_assoc ..).symm, ?_, fun h => ?_⟩
  · rw [List.length_append]
    omega
  · rw [brs_append]
    exact neutral_append (n1 h) (n2 h)

theorem Seg.plain {r r' : List Token} {t : Token} (ht : lg = false → brOf t = none)
    (h : Seg lg n r r') : Seg lg 1 (t :: r) r' := by
  rcases h with ⟨c, rfl, _, nb⟩
  refine ⟨t :: c, rfl, Nat.le_add_left 1 _, fun hl => ?_⟩
  rw [brs_cons, ht hl]
  exact nb hl

theorem Seg.wrap {r r2 : List Token} {t c : Token} {k : BK}
    (ht : brOf t = some (.op k)) (hc : brOf c = some (.cl k)) (h : Seg lg n r (c :: r2)) :
    Seg lg 1 (t :: r) r2 := by
  rcases h with ⟨c1, rfl, _, nb⟩
  refine ⟨t :: (c1 ++ [c]), by rw [List.cons_append, List.append_assoc]; rfl, Nat.le_add_left 1 _, fun hl => ?_⟩
  rw [brs_cons, ht, brs_append, brs_cons, hc]
  exact neutral_wrap (nb hl)

/-- outcome of a parsing function: one of the errors of the Python code, or a rest `r` with `P r` -/
def Yields (P : List Token → Prop) : PRes → Prop
  | .ok (_, r) => P r
  | .error x => x ≠ .fuel

theorem Yields.mono {x : PRes} (h : Yields P x) (hq : ∀ r, P r → Q r) :
    Yields Q x := by
  rcases x with x | ⟨e, r⟩
  · exact h
  · exact hq r h

/-- the parser's `match x with | .error x => .error x | .ok (e, r) => k e r` -/
theorem Yields.bind {x : PRes} {k : Expr → List Token → PRes} (h : Yields P x)
    (hk : ∀ e r, P r → Yields Q (k e r)) :
    Yields Q (match (generalizing := false) x with | .error x => .error x | .ok (e, r) => k e r) := by
  rcases x with x | ⟨e, r⟩
  · exact h
  · exact hk e r h

theorem Yields.ite {c : Prop} [Decidable c] {x y : PRes} (hx : c → Yields P x)
    (hy : Yields P y) : Yields P (if c then x else y) := by
  split
  · exact hx ‹_›
  · exact hy

theorem Yields.after {ts r : List Token} {x : PRes} (hs : Seg lg n ts r)
    (h : Yields (Seg lg m r) x) : Yields (Seg lg (n + m) ts) x :=
  h.mono fun _ h' => hs.trans h'

end

theorem takeClose_some {ts r : List Token} : takeClose ts = some r → ∃ d, ts = d :: r ∧ d.kind = .exactClose := by
  fun_cases takeClose ts with
  | case1 => nofun
  | case2 d r0 hd => exact fun h => ⟨d, Option.some.inj h ▸ rfl, hd⟩
  | case3 => nofun

theorem closeOf_yields {P : List Token → Prop} {ex : Expr} {o : Option (List Token)}
    (h : ∀ r, o = some r → P r) : Yields P (closeOf ex o) := by
  unfold closeOf
  split
  · exact nofun
  · split
    · exact nofun
    · exact h _ rfl

/-- the `:` branch ends just after a `}` and is neutral up to that `}` -/
theorem afterColon_yields {lg : Bool} {n : Nat} (sub : List Token → PRes) {e0 : Expr} {rest : List Token}
    (hsub : Yields (Seg lg n rest) (sub rest)) :
    Yields (fun r => ∃ d, d.kind = .exactClose ∧ Seg lg 0 rest (d :: r)) (afterColon sub e0 rest) := by
  unfold afterColon
  split
  · rename_i r3 htc
    rcases takeClose_some htc with ⟨d, rfl, hd⟩
    exact closeOf_yields fun r hr => ⟨d, hd, Option.some.inj hr ▸ Seg.refl⟩
  · refine hsub.bind fun l r3 hs => closeOf_yields fun r hr => ?_
    rcases takeClose_some hr with ⟨d, rfl, hd⟩
    exact ⟨d, hd, hs.zero⟩

theorem termOf_cases (lg : Bool) (t : Token) :
    (∃ e, termOf lg t = .ok e ∧ (lg = false → brOf t = none)) ∨ termOf lg t = .error .unexpected := by
  fun_cases termOf lg t with
  | case1 h1 => exact Or.inl ⟨_, rfl, fun _ => brOf_of_kind h1⟩
  | case2 _ h2 =>
    refine Or.inl ⟨_, rfl, fun hl => ?_⟩
    rw [hl, Bool.or_false, decide_eq_true_eq] at h2
    exact brOf_of_kind h2
  | case3 => exact Or.inr rfl

/-- Each function calls the next with one unit of fuel less, so a token costs at most six units; the two loops may
consume nothing. -/
def Parses (lg : Bool) (f : Nat) : Prop :=
  (∀ ts, 6 * ts.length + 4 ≤ f → Yields (Seg lg 1 ts) (pOr lg f ts)) ∧
  (∀ e0 ts, 6 * ts.length + 1 ≤ f → Yields (Seg lg 0 ts) (pOrLoop lg f e0 ts)) ∧
  (∀ ts, 6 * ts.length + 3 ≤ f → Yields (Seg lg 1 ts) (pAnd lg f ts)) ∧
  (∀ e0 ts, 6 * ts.length + 1 ≤ f → Yields (Seg lg 0 ts) (pAndLoop lg f e0 ts)) ∧
  (∀ ts, 6 * ts.length + 2 ≤ f → Yields (Seg lg 1 ts) (pNeg lg f ts)) ∧
  (∀ ts, 6 * ts.length + 1 ≤ f → Yields (Seg lg 1 ts) (pGroup lg f ts))

theorem parses (lg : Bool) : ∀ f, Parses lg f := by
  intro f
  induction f with
  | zero => refine ⟨?_, ?_, ?_, ?_, ?_, ?_⟩ <;> intros <;> omega
  | succ f ih =>
    rcases ih with ⟨iOr, iOrL, iAnd, iAndL, iNeg, iGrp⟩
    refine ⟨?_, ?_, ?_, ?_, ?_, ?_⟩
    -- each function at `f + 1` unfolds to the `match` of `Yields.bind` and the `if`s of `Yields.ite`
    · intro ts hb
      exact (iAnd ts (by omega)).bind fun e r hs => (iOrL e r (by have := hs.len; omega)).after hs
    · intro e0 ts hb
      cases ts with
      | nil => exact Seg.refl
      | cons t r =>
        rw [List.length_cons] at hb
        refine Yields.ite (fun hk => ?_) Seg.refl
        refine ((iAnd r (by omega)).bind fun e2 r2 hs =>
          (iOrL _ r2 (by have := hs.len; omega)).after hs).mono fun r' h => ?_
        exact (Seg.plain (fun _ => brOf_of_kind hk) h).zero
    · intro ts hb
      exact (iNeg ts (by omega)).bind fun e r hs => (iAndL e r (by have := hs.len; omega)).after hs
    · intro e0 ts hb
      cases ts with
      | nil => exact Seg.refl
      | cons t r =>
        rw [List.length_cons] at hb
        refine Yields.ite (fun hk => ?_) Seg.refl
        refine ((iNeg r (by omega)).bind fun e2 r2 hs =>
          (iAndL _ r2 (by have := hs.len; omega)).after hs).mono fun r' h => ?_
        exact (Seg.plain (fun _ => brOf_of_kind hk) h).zero
    · intro ts hb
      cases ts with
      | nil => exact iGrp [] (by omega)
      | cons t r =>
        refine Yields.ite (fun hk => ?_) (iGrp (t :: r) (by omega))
        rw [List.length_cons] at hb
        exact (iGrp r (by omega)).bind fun e r2 hs =>
          Yields.ite (fun _ => nofun) (Seg.plain (fun _ => brOf_of_kind hk) hs)
    · intro ts hb
      cases ts with
      | nil => exact nofun
      | cons t r =>
        rw [List.length_cons] at hb
        have hOr := iOr r (by omega)
        refine Yields.ite (fun h1 => ?_) <| Yields.ite (fun h2 => ?_) <| Yields.ite (fun h3 => ?_) ?_
        · refine hOr.bind fun e r1 hs => ?_
          cases r1 with
          | nil => exact nofun
          | cons c r2 =>
            exact Yields.ite (fun hc => Seg.wrap (brOf_of_kind h1) (brOf_of_kind hc) hs) nofun
        · refine hOr.bind fun e r1 hs => ?_
          cases r1 with
          | nil => exact nofun
          | cons c r2 =>
            exact Yields.ite (fun hc => Seg.wrap (brOf_of_kind h2) (brOf_of_kind hc) hs) nofun
        · refine hOr.bind fun e r1 hs => ?_
          cases r1 with
          | nil => exact nofun
          | cons c r2 =>
            have hl := hs.len
            rw [List.length_cons] at hl
            refine Yields.ite (fun hc => Seg.wrap (brOf_of_kind h3) (brOf_of_kind hc) hs)
              (Yields.ite (fun hc => ?_) nofun)
            refine (afterColon_yields (pOr lg f) (iOr r2 (by omega))).mono fun r' ⟨d, hd, hseg⟩ => ?_
            exact Seg.wrap (brOf_of_kind h3) (brOf_of_kind hd)
              (hs.trans (Seg.plain (fun _ => brOf_of_kind hc) hseg))
        · rcases termOf_cases lg t with ⟨e, he, hb⟩ | he
          · rw [he]; exact Seg.plain hb Seg.refl
          · rw [he]; exact nofun

theorem pOr_yields (lg : Bool) (ts : List Token) : Yields (Seg lg 1 ts) (pOr lg (fuelFor ts) ts) :=
  (parses lg _).1 ts (by unfold fuelFor; omega)

theorem parseToks_spec {lg : Bool} {ts : List Token} :
    parseToks lg ts ≠ .error .fuel ∧ ∀ e, parseToks lg ts = .ok e → lg = false → Balanced (brs ts) := by
  unfold parseToks
  have h := pOr_yields lg ts
  generalize pOr lg (fuelFor ts) ts = res at h
  rcases res with x | ⟨e, r⟩
  · exact ⟨fun hx => h (Except.error.inj hx), nofun⟩
  · dsimp only
    by_cases hr : r.isEmpty = true
    · rw [if_pos hr]
      refine ⟨nofun, fun _ _ hl => ?_⟩
      rcases h with ⟨c, hc, _, hn⟩
      have := hn hl [] []
      rwa [List.append_nil, ← List.append_nil c, ← List.isEmpty_iff.1 hr, ← hc] at this
    · rw [if_neg hr]
      exact ⟨nofun, nofun⟩

/-! ### `||` -/

theorem mergeOr_isEmpty (g1 g2 : List Result) :
    (mergeOr se g1 g2).isEmpty = (g1.isEmpty && g2.isEmpty) := by
  unfold mergeOr
  cases g2 with
  | nil =>
    rw [List.append_nil, List.isEmpty_nil, Bool.and_true]
    exact congrArg List.isEmpty (List.filter_eq_self.2 fun _ _ => rfl)
  | cons b bs =>
    rw [List.isEmpty_cons, Bool.and_false]
    cases List.filter _ g1 <;> rfl

/-! ### `&&`: the double loop of `merge_and_groups` -/

/-- the two results may be merged: same group (identity), no shared child (identity).  `mergeRes` is applied to
such pairs only, which is why it has no counterpart of the `ValueError("Internal error")` that
`merge_and_result` raises for different groups. -/
def compat (a b : Result) : Bool :=
  a.group.id == b.group.id && !(a.tags.any (fun t => hasId b.tags t.id))

theorem hasId_iff (l : List Node) (i : Nat) : hasId l i = true ↔ ∃ n ∈ l, i = n.id := by
  rw [hasId, List.any_eq_true]
  exact exists_congr fun n => and_congr_right fun _ => beq_iff_eq.trans eq_comm

/-- the second half of `compat` -/
def disj (a b : Result) : Prop := ∀ x ∈ a.tags, ∀ y ∈ b.tags, x.id ≠ y.id

theorem disj.symm {a b : Result} (h : disj a b) : disj b a := fun x hx y hy e => h y hy x hx e.symm

theorem compat_iff {a b : Result} : compat a b = true ↔ a.group.id = b.group.id ∧ disj a b := by
  simp only [compat, disj, ne_eq, Bool.and_eq_true, beq_iff_eq, Bool.not_eq_true', List.any_eq_false, hasId_iff,
    not_exists, not_and]

theorem compat_symm (a b : Result) : compat a b = compat b a := by
  rw [Bool.eq_iff_iff, compat_iff, compat_iff]
  exact ⟨fun h => ⟨h.1.symm, h.2.symm⟩, fun h => ⟨h.1.symm, h.2.symm⟩⟩

theorem mergeStep_eq (a : Result) (acc : List Result) (b : Result) :
    mergeStep se a acc b =
      if compat a b then
        (if acc.any (fun f => sameTags se (mergeRes a b) f) then acc else acc ++ [mergeRes a b])
      else acc := by
  unfold mergeStep compat
  cases a.group.id == b.group.id <;> cases a.tags.any fun t => hasId b.tags t.id <;> rfl

theorem mem_mergeStep_of_mem {a b : Result} {acc : List Result} {r : Result} (h : r ∈ acc) :
    r ∈ mergeStep se a acc b := by
  rw [mergeStep_eq]
  split
  · split
    · exact h
    · exact List.mem_append_left _ h
  · exact h

theorem mem_mergeStep {a b : Result} {acc : List Result} {r : Result} (h : r ∈ mergeStep se a acc b) :
    r ∈ acc ∨ (compat a b = true ∧ r = mergeRes a b) := by
  rw [mergeStep_eq] at h
  split at h
  · rename_i hc
    split at h
    · exact Or.inl h
    · exact (List.mem_append.1 h).imp_right fun h2 => ⟨hc, List.mem_singleton.1 h2⟩
  · exact Or.inl h

theorem mergeStep_complete {a b : Result} (acc : List Result) (hc : compat a b = true) :
    ∃ r ∈ mergeStep se a acc b, r = mergeRes a b ∨ sameTags se (mergeRes a b) r = true := by
  rw [mergeStep_eq, if_pos hc]
  split
  · rename_i hany
    rcases List.any_eq_true.1 hany with ⟨f, hf, hs⟩
    exact ⟨f, hf, Or.inr hs⟩
  · exact ⟨mergeRes a b, List.mem_append_right _ (List.mem_singleton_self _), Or.inl rfl⟩

/-- the double loop of `merge_and_groups` is one loop over the pairs -/
theorem mergeAnd_eq (g1 g2 : List Result) :
    mergeAnd se g1 g2 =
      (g1.flatMap fun a => g2.map (Prod.mk a)).foldl (fun acc p => mergeStep se p.1 acc p.2) [] := by
  rw [mergeAnd, List.foldl_flatMap]
  simp only [List.foldl_map]

theorem mem_pairs {a b : Result} {g1 g2 : List Result} :
    (a, b) ∈ (g1.flatMap fun a => g2.map (Prod.mk a)) ↔ a ∈ g1 ∧ b ∈ g2 := by
  simp only [List.mem_flatMap, List.mem_map, Prod.mk.injEq, exists_eq_right_right]

theorem loop_mono (ps : List (Result × Result)) {acc : List Result} {r : Result} (h : r ∈ acc) :
    r ∈ ps.foldl (fun acc p => mergeStep se p.1 acc p.2) acc := by
  induction ps generalizing acc with
  | nil => exact h
  | cons p ps ih => exact ih (mem_mergeStep_of_mem h)

theorem loop_mem {ps : List (Result × Result)} {acc : List Result} {r : Result}
    (h : r ∈ ps.foldl (fun acc p => mergeStep se p.1 acc p.2) acc) :
    r ∈ acc ∨ ∃ p ∈ ps, compat p.1 p.2 = true ∧ r = mergeRes p.1 p.2 := by
  induction ps generalizing acc with
  | nil => exact Or.inl h
  | cons p ps ih =>
    rcases ih h with h1 | ⟨p', hp', hc⟩
    · exact (mem_mergeStep h1).imp_right fun hc => ⟨p, List.mem_cons_self, hc⟩
    · exact Or.inr ⟨p', List.mem_cons_of_mem _ hp', hc⟩

theorem loop_complete {ps : List (Result × Result)} {acc : List Result} {p : Result × Result} (hp : p ∈ ps)
    (hc : compat p.1 p.2 = true) :
    ∃ r ∈ ps.foldl (fun acc p => mergeStep se p.1 acc p.2) acc,
      r = mergeRes p.1 p.2 ∨ sameTags se (mergeRes p.1 p.2) r = true := by
  induction ps generalizing acc with
  | nil => cases hp
  | cons p0 ps ih =>
    rcases List.mem_cons.1 hp with rfl | hp'
    · rcases mergeStep_complete (se := se) acc hc with ⟨r, hr, hrr⟩
      exact ⟨r, loop_mono ps hr, hrr⟩
    · exact ih hp'

theorem mem_mergeAnd {g1 g2 : List Result} {r : Result} (h : r ∈ mergeAnd se g1 g2) :
    ∃ a ∈ g1, ∃ b ∈ g2, compat a b = true ∧ r = mergeRes a b := by
  rw [mergeAnd_eq] at h
  rcases loop_mem h with h1 | ⟨⟨a, b⟩, hp, hc, hr⟩
  · cases h1
  · exact ⟨a, (mem_pairs.1 hp).1, b, (mem_pairs.1 hp).2, hc, hr⟩

theorem mergeAnd_complete {g1 g2 : List Result} {a b : Result} (ha : a ∈ g1) (hb : b ∈ g2)
    (hc : compat a b = true) :
    ∃ r ∈ mergeAnd se g1 g2, r = mergeRes a b ∨ sameTags se (mergeRes a b) r = true := by
  rw [mergeAnd_eq]
  exact loop_complete (mem_pairs.2 ⟨ha, hb⟩) hc

theorem mergeAnd_ne_nil_iff (g1 g2 : List Result) :
    mergeAnd se g1 g2 ≠ [] ↔ ∃ a ∈ g1, ∃ b ∈ g2, compat a b = true := by
  constructor
  · intro h
    rcases List.exists_mem_of_ne_nil _ h with ⟨r, hr⟩
    rcases mem_mergeAnd hr with ⟨a, ha, b, hb, hc, _⟩
    exact ⟨a, ha, b, hb, hc⟩
  · rintro ⟨a, ha, b, hb, hc⟩
    rcases mergeAnd_complete ha hb hc with ⟨r, hr, _⟩
    exact List.ne_nil_of_mem hr

theorem mergeAnd_ne_nil_comm (g1 g2 : List Result) : mergeAnd se g1 g2 ≠ [] ↔ mergeAnd se g2 g1 ≠ [] := by
  have key (g1 g2 : List Result) (h : mergeAnd se g1 g2 ≠ []) : mergeAnd se g2 g1 ≠ [] := by
    rw [mergeAnd_ne_nil_iff] at h ⊢
    rcases h with ⟨a, ha, b, hb, hc⟩
    exact ⟨b, hb, a, ha, compat_symm a b ▸ hc⟩
  exact ⟨key g1 g2, key g2 g1⟩

/-! ### sorting only permutes -/

theorem perm_insertByStr (x : Node) (l : List Node) : (insertByStr x l).Perm (x :: l) := by
  fun_induction insertByStr x l with
  | case1 => exact .refl _
  | case2 y ys _ ih => exact (ih.cons y).trans (.swap x y ys)
  | case3 => exact .refl _

theorem perm_sortByStr (l : List Node) : (sortByStr l).Perm l := by
  fun_induction sortByStr l with
  | case1 => exact .refl _
  | case2 x xs ih => exact (perm_insertByStr x _).trans (ih.cons x)

theorem mergeRes_perm {a b : Result} (h : disj a b) :
    (mergeRes a b).tags.Perm (a.tags ++ b.tags) := by
  refine (perm_sortByStr _).trans (List.Perm.of_eq ?_)
  rw [List.filter_eq_self.2 fun y hy => ?_]
  rw [Bool.not_eq_true', ← Bool.not_eq_true, hasId_iff]
  exact fun ⟨x, hx, e⟩ => h x hx y hy e.symm

/-! ### the evaluator without its early exits -/

theorem evalE_and (t : Tree) (l r : Expr) (ex : Bool) :
    evalE se t (.and l r) ex = mergeAnd se (evalE se t l ex) (evalE se t r ex) := by
  rw [evalE]
  cases evalE se t l ex <;> rfl

theorem parents_nil : parents [] = [] := rfl

theorem ite_parents (l : List Result) : (if (!l.isEmpty) = true then parents l else []) = parents l := by
  cases l <;> rfl

theorem evalE_exactNone (t : Tree) (r : Expr) (ex : Bool) :
    evalE se t (.exactNone r) ex = parents (filterExact (evalE se t r true)) := by
  rw [evalE]
  exact ite_parents _

theorem evalE_exactOpt (t : Tree) (r l : Expr) (ex : Bool) :
    evalE se t (.exactOpt r l) ex =
      if (filterExact (evalE se t r true)).isEmpty then
        parents (filterExact (mergeAnd se (evalE se t r true) (evalE se t l true)))
      else parents (filterExact (evalE se t r true)) := by
  rw [evalE]
  simp only [ite_parents]
  cases filterExact (evalE se t r true) <;> rfl

/-! ### what the steps of the evaluation put into their lists -/

theorem ne_nil_iff_exists_mem {α : Type} {l : List α} : l ≠ [] ↔ ∃ x, x ∈ l :=
  ⟨List.exists_mem_of_ne_nil l, fun ⟨_, h⟩ => List.ne_nil_of_mem h⟩

/-- `_get_parent_groups` -/
theorem mem_parents {rs : List Result} {x : Result} :
    x ∈ parents rs ↔ ∃ r ∈ rs, ∃ p rest, r.group.isGroupFlag = true ∧ r.anc = p :: rest ∧
      p.truthy = true ∧ x = ⟨p, rest, [r.group]⟩ := by
  unfold parents
  rw [List.mem_filterMap]
  constructor
  · rintro ⟨r, hr, hf⟩
    split at hf
    · cases hf
    · rename_i hflag
      split at hf
      · cases hf
      · rename_i p rest hanc
        split at hf
        · rename_i htr
          rw [Bool.not_eq_true', Bool.not_eq_false] at hflag
          exact ⟨r, hr, p, rest, hflag, hanc, htr, (Option.some.inj hf).symm⟩
        · cases hf
  · rintro ⟨r, hr, p, rest, hflag, hanc, htr, rfl⟩
    refine ⟨r, hr, ?_⟩
    rw [hflag, hanc]
    exact if_pos htr

theorem mem_negResults {t : Tree} {found : List Result} {x : Result} :
    x ∈ negResults t found ↔
      ∃ g ∈ allGroups t, (∀ r ∈ found, r.group.id ≠ g.group.id) ∧ ⟨g.group, g.anc, []⟩ = x := by
  simp only [negResults, List.mem_map, List.mem_filter, Bool.not_eq_true', List.any_eq_false, beq_iff_eq, and_assoc,
    ne_eq]

/-- the kind of child a wildcard accepts -/
def wildOk : Wild → Node → Bool
  | .any, _ => true
  | .tags, .tag _ => true
  | .tags, .group _ _ _ => false
  | .groups, .tag _ => false
  | .groups, .group _ _ _ => true

theorem mem_wildResults {t : Tree} {w : Wild} {x : Result} :
    x ∈ wildResults t w ↔
      ∃ g ∈ allGroups t, ∃ k ∈ g.group.kids, wildOk w k = true ∧ ⟨g.group, g.anc, [k]⟩ = x := by
  simp only [wildResults, List.mem_flatMap, List.mem_map, List.mem_filter, and_assoc]
  exact Iff.rfl

theorem isMatchWith_iff {q : Expr} {t : Tree} : isMatchWith se q t = true ↔ evalE se t q false ≠ [] := by
  simp [isMatchWith, evalWith]

theorem term_match (w : Str) (m : Mode) (t : Tree) :
    isMatchWith se (.term w m false) t = true ↔ ∃ h ∈ allTags t, tagMatches w m h.info = true := by
  rw [isMatchWith_iff, evalE, ne_nil_iff_exists_mem]
  unfold termResults
  dsimp only
  rw [if_neg Bool.false_ne_true, if_neg Bool.false_ne_true]
  simp only [List.mem_flatMap, List.mem_filter]
  constructor
  · rintro ⟨x, h, ⟨hh, hm⟩, _⟩
    exact ⟨h, hh, hm⟩
  · rintro ⟨h, hh, hm⟩
    refine ⟨⟨h.parent, h.anc, [.tag h.info]⟩, h, ⟨hh, hm⟩, ?_⟩
    rw [chain, if_pos (allTags_parent_truthy hh)]
    exact List.mem_cons_self

/-! ### results point into the annotation -/

/-- the result's group is a group of the annotation and `anc` are that group's real ancestors -/
def Good (t : Tree) (r : Result) : Prop := (⟨r.group, r.anc⟩ : GroupHit) ∈ allGroups t

theorem chain_good {t : Tree} {l : List Node} {child : Node}
    (hl : ∀ g anc, l = g :: anc → (⟨g, anc⟩ : GroupHit) ∈ allGroups t) : ∀ r ∈ chain child l, Good t r := by
  fun_induction chain child l with
  | case1 => nofun
  | case2 child g anc _ ih =>
    have hg := hl g anc rfl
    exact List.forall_mem_cons.2 ⟨hg, ih fun p rest => allGroups_closed hg⟩
  | case3 => nofun

theorem chain0_good (t : Tree) (gh : GroupHit) (hg : gh ∈ allGroups t) :
    ∀ r ∈ chain0 gh.group gh.anc, Good t r := by
  rw [chain0]
  split
  · exact List.forall_mem_cons.2
      ⟨hg, chain_good fun p rest => allGroups_closed hg⟩
  · nofun

theorem parents_good {t : Tree} {rs : List Result} (h : ∀ r ∈ rs, Good t r) :
    ∀ r ∈ parents rs, Good t r := by
  intro x hx
  rcases mem_parents.1 hx with ⟨r, hr, p, rest, _, hanc, _, rfl⟩
  exact allGroups_closed (h r hr) hanc

theorem mergeAnd_good {t : Tree} {g1 g2 : List Result} (h : ∀ r ∈ g1, Good t r) :
    ∀ r ∈ mergeAnd se g1 g2, Good t r := by
  intro r hr
  rcases mem_mergeAnd hr with ⟨a, ha, b, _, _, rfl⟩
  exact h a ha

theorem filterExact_good {t : Tree} {rs : List Result} (h : ∀ r ∈ rs, Good t r) :
    ∀ r ∈ filterExact rs, Good t r := by
  intro r hr
  exact h r (List.mem_filter.1 hr).1

theorem termResults_good {t : Tree} {text : Str} {mode : Mode} {nil exact : Bool} :
    ∀ r ∈ termResults t text mode nil exact, Good t r := by
  have hF : ∀ h ∈ (allTags t).filter (fun h => tagMatches text mode h.info),
      (⟨h.parent, h.anc⟩ : GroupHit) ∈ allGroups t :=
    fun h hh => allTags_good (List.mem_filter.1 hh).1
  unfold termResults
  dsimp only
  cases nil <;> cases exact <;> simp only [eq_self, if_true, Bool.false_eq_true, if_false]
  · exact List.forall_mem_flatMap.2 fun h hh => chain_good fun g anc e => by cases e; exact hF h hh
  · exact List.forall_mem_map.2 hF
  · split
    · nofun
    · exact List.forall_mem_flatMap.2 (chain0_good t)
  · split
    · nofun
    · exact List.forall_mem_map.2 fun g hg => hg

theorem evalE_good (t : Tree) (q : Expr) (ex : Bool) : ∀ r ∈ evalE se t q ex, Good t r := by
  induction q generalizing ex with
  | term text mode nil => rw [evalE]; exact termResults_good
  | wild w =>
    intro r hr
    rw [evalE] at hr
    rcases mem_wildResults.1 hr with ⟨g, hg, k, _, _, rfl⟩
    exact hg
  | and l r ihl ihr => rw [evalE_and]; exact mergeAnd_good (ihl ex)
  | or l r ihl ihr =>
    rw [evalE]
    exact List.forall_mem_append.2 ⟨fun x h => ihl ex x (List.mem_filter.1 h).1, ihr ex⟩
  | neg r ih =>
    intro x hx
    rw [evalE] at hx
    rcases mem_negResults.1 hx with ⟨g, hg, _, rfl⟩
    exact hg
  | desc r ih | exactAny r ih => rw [evalE]; exact parents_good (ih _)
  | exactNone r ih => rw [evalE_exactNone]; exact parents_good (filterExact_good (ih true))
  | exactOpt r l ihr ihl =>
    rw [evalE_exactOpt]
    split
    · exact parents_good (filterExact_good (mergeAnd_good (ihr true)))
    · exact parents_good (filterExact_good (ihr true))

/-- the result can be lifted by `_get_parent_groups`: its group is parenthesised and has a parent -/
def Liftable (r : Result) : Prop := r.group.isGroupFlag = true ∧ r.anc ≠ []

theorem parents_ne_nil_iff {t : Tree} {rs : List Result} (hg : ∀ r ∈ rs, Good t r) :
    parents rs ≠ [] ↔ ∃ r ∈ rs, Liftable r := by
  rw [ne_nil_iff_exists_mem]
  constructor
  · rintro ⟨x, hx⟩
    rcases mem_parents.1 hx with ⟨r, hr, p, rest, hflag, hanc, _, _⟩
    exact ⟨r, hr, hflag, by rw [hanc]; exact List.cons_ne_nil p rest⟩
  · rintro ⟨r, hr, hflag, hanc⟩
    rcases List.exists_cons_of_ne_nil hanc with ⟨p, rest, ha⟩
    exact ⟨_, mem_parents.2 ⟨r, hr, p, rest, hflag, ha,
      allGroups_parent_truthy (hg r hr) ha, rfl⟩⟩

/-! ### associativity of `&&` at the level of "matches" -/

/-- No two *distinct* groups of the annotation are equal in the sense of `HedGroup.__eq__`.
(With `se = true`, `has_same_tags` compares the groups with `!=`, i.e. by equality, so two results with no children
on two equal groups, e.g. the `~a` results on `(Red),(Red)`, count as duplicates of each other.) -/
def NoEqualGroups (t : Tree) : Prop :=
  ∀ g ∈ allGroups t, ∀ h ∈ allGroups t, Node.eqv g.group h.group = true → g.group.id = h.group.id

theorem compat_perm {m r c : Result} (hg : m.group.id = r.group.id)
    (ht : (m.tags.map Node.id).Perm (r.tags.map Node.id)) (h : compat m c = true) : compat r c = true := by
  rw [compat_iff] at h ⊢
  refine ⟨hg ▸ h.1, fun x hx y hy e => ?_⟩
  rcases List.mem_map.1 (ht.mem_iff.2 (List.mem_map_of_mem hx)) with ⟨x0, hx0, ex⟩
  exact h.2 x0 hx0 y hy (ex.trans e)

/-- for the code before the repair the group identity needs `NoEqualGroups` and both results in the annotation -/
theorem sameTags_ids {t : Tree} (hne : se = true → NoEqualGroups t) {m r : Result}
    (h : sameTags se m r = true) (hm : Good t m) (hr : Good t r) :
    m.group.id = r.group.id ∧ m.tags.map Node.id = r.tags.map Node.id := by
  simp only [sameTags, Bool.and_eq_true, beq_iff_eq] at h
  refine ⟨?_, h.2⟩
  cases se with
  | false => simpa using h.1.1
  | true => exact hne rfl _ hm _ hr (by simpa using h.1.1)

theorem compat_mergeRes_iff (a b c : Result) :
    (compat a b = true ∧ compat (mergeRes a b) c = true) ↔
      (a.group.id = b.group.id ∧ a.group.id = c.group.id ∧ disj a b ∧ disj a c ∧ disj b c) := by
  rw [compat_iff, compat_iff]
  constructor
  · rintro ⟨⟨h1, dab⟩, h2, dm⟩
    have hm := fun x => (mergeRes_perm dab).mem_iff.trans (List.mem_append (a := x))
    exact ⟨h1, h2, dab, fun x hx => dm x ((hm x).2 (Or.inl hx)), fun x hx => dm x ((hm x).2 (Or.inr hx))⟩
  · rintro ⟨h1, h2, dab, dac, dbc⟩
    exact ⟨⟨h1, dab⟩, h2, fun x hx => (List.mem_append.1 ((mergeRes_perm dab).mem_iff.1 hx)).elim (dac x) (dbc x)⟩

/-- a condition symmetric in the three lists -/
theorem mergeAnd3_ne_nil_iff {t : Tree} (hne : se = true → NoEqualGroups t) {g1 g2 g3 : List Result}
    (h1 : ∀ r ∈ g1, Good t r) :
    mergeAnd se (mergeAnd se g1 g2) g3 ≠ [] ↔
      ∃ a ∈ g1, ∃ b ∈ g2, ∃ c ∈ g3,
        a.group.id = b.group.id ∧ a.group.id = c.group.id ∧ disj a b ∧ disj a c ∧ disj b c := by
  simp only [mergeAnd_ne_nil_iff (g2 := g3), ← compat_mergeRes_iff]
  constructor
  · rintro ⟨r, hr, c, hc, hrc⟩
    rcases mem_mergeAnd hr with ⟨a, ha, b, hb, hab, rfl⟩
    exact ⟨a, ha, b, hb, c, hc, hab, hrc⟩
  · rintro ⟨a, ha, b, hb, c, hc, hab, hmc⟩
    rcases mergeAnd_complete (se := se) ha hb hab with ⟨r, hr, rfl | hs⟩
    · exact ⟨_, hr, c, hc, hmc⟩
    · have hi := sameTags_ids hne hs (h1 a ha) (mergeAnd_good h1 r hr)
      exact ⟨r, hr, c, hc, compat_perm hi.1 (.of_eq hi.2) hmc⟩

/-! ### the batch interface -/

theorem setOps_contains {objs : List Tree} {queries : List Expr} {i j : Nat} {o : Tree} {q : Expr}
    (ho : objs[i]? = some o) (hq : queries[j]? = some q) :
    (setOps se objs queries).contains (i, j) = (o.truthy && isMatchWith se q o) := by
  rw [Bool.eq_iff_iff, List.contains_iff_mem, setOps]
  simp only [List.mem_flatMap, List.mem_range, List.mem_filterMap]
  constructor
  · rintro ⟨j', hj', i', hi', h⟩
    split at h
    · rename_i o' q' ho' hq'
      split at h
      · rename_i hc
        cases h
        rw [ho] at ho'
        rw [hq] at hq'
        cases ho'
        cases hq'
        exact hc
      · cases h
    · cases h
  · intro hc
    exact ⟨j, (List.getElem?_eq_some_iff.1 hq).1, i, (List.getElem?_eq_some_iff.1 ho).1, by simp [ho, hq, hc]⟩

/-! ### sibling order: the results on a reordered annotation

A reordering makes the tag and group hits of the two annotations partners of each other (`Sub TH`, `Sub GH`, both
directions: `ctx_of_shuf`); by induction on the query every result on `t` has an `Alike` partner on `t'`
(`evalE_sub`).  `~` turns the direction round (a group is reported when it has *no* result), hence `Ctx` is symmetric. -/

/-- two results that look the same to every later step of the evaluation -/
def Alike (r r' : Result) : Prop :=
  ι r.group = ι r'.group ∧ r.anc.map ι = r'.anc.map ι ∧ (r.tags.map Node.id).Perm (r'.tags.map Node.id)

theorem Alike.trans {a b c : Result} (h1 : Alike a b) (h2 : Alike b c) : Alike a c :=
  ⟨h1.1.trans h2.1, h1.2.1.trans h2.2.1, h1.2.2.trans h2.2.2⟩

/-- group ids identify the groups of the annotation (what object identity means for the real objects).  Groups
only: of a tag the evaluator compares nothing but the id. -/
def UniqueIds (t : Tree) : Prop :=
  ∀ g ∈ allGroups t, ∀ h ∈ allGroups t, g.group.id = h.group.id →
    ι g.group = ι h.group ∧ g.anc.map ι = h.anc.map ι

/-- everything the proof needs about a pair of annotations, symmetric in the two -/
structure Ctx (se : Bool) (t t' : Tree) : Prop where
  tags : Sub TH (allTags t) (allTags t')
  tags' : Sub TH (allTags t') (allTags t)
  groups : Sub GH (allGroups t) (allGroups t')
  groups' : Sub GH (allGroups t') (allGroups t)
  uniq : UniqueIds t
  uniq' : UniqueIds t'
  neq : se = true → NoEqualGroups t
  neq' : se = true → NoEqualGroups t'

theorem Ctx.symm {se : Bool} {t t' : Tree} (c : Ctx se t t') : Ctx se t' t :=
  ⟨c.tags', c.tags, c.groups', c.groups, c.uniq', c.uniq, c.neq', c.neq⟩

theorem sameTags_alike {t : Tree} (hu : UniqueIds t) (hne : se = true → NoEqualGroups t) {m r : Result}
    (h : sameTags se m r = true) (hm : Good t m) (hr : Good t r) : Alike m r := by
  have hi := sameTags_ids hne h hm hr
  have hu' := hu _ hm _ hr hi.1
  exact ⟨hu'.1, hu'.2, .of_eq hi.2⟩

theorem compat_rel {a a' b b' : Result} (ha : Alike a a') (hb : Alike b b') (h : compat a b = true) :
    compat a' b' = true := by
  have h1 := compat_perm (ι_id ha.1) ha.2.2 h
  rw [compat_symm] at h1 ⊢
  exact compat_perm (ι_id hb.1) hb.2.2 h1

theorem mergeRes_rel {a a' b b' : Result} (ha : Alike a a') (hb : Alike b b') (h : compat a b = true)
    (h' : compat a' b' = true) : Alike (mergeRes a b) (mergeRes a' b') := by
  have p := (mergeRes_perm (compat_iff.1 h).2).map Node.id
  have p' := (mergeRes_perm (compat_iff.1 h').2).map Node.id
  rw [List.map_append] at p p'
  exact ⟨ha.1, ha.2.1, p.trans ((ha.2.2.append hb.2.2).trans p'.symm)⟩

theorem mergeAnd_rel {t' : Tree} (hu : UniqueIds t') (hne : se = true → NoEqualGroups t')
    {g1 g1' g2 g2' : List Result} (h1 : Sub Alike g1 g1') (h2 : Sub Alike g2 g2') (hg : ∀ r ∈ g1', Good t' r) :
    Sub Alike (mergeAnd se g1 g2) (mergeAnd se g1' g2') := by
  intro x hx
  rcases mem_mergeAnd hx with ⟨a, ha, b, hb, hc, rfl⟩
  rcases h1 a ha with ⟨a', ha', ra⟩
  rcases h2 b hb with ⟨b', hb', rb⟩
  have hc' := compat_rel ra rb hc
  rcases mergeAnd_complete (se := se) ha' hb' hc' with ⟨r', hr', rfl | hs⟩
  · exact ⟨_, hr', mergeRes_rel ra rb hc hc'⟩
  · refine ⟨r', hr', (mergeRes_rel ra rb hc hc').trans ?_⟩
    exact sameTags_alike hu hne hs (hg a' ha') (mergeAnd_good hg r' hr')

theorem mergeOr_rel {t' : Tree} (hu : UniqueIds t') (hne : se = true → NoEqualGroups t')
    {g1 g1' g2 g2' : List Result} (h1 : Sub Alike g1 g1') (h2 : Sub Alike g2 g2') (hg1 : ∀ r ∈ g1', Good t' r)
    (hg2 : ∀ r ∈ g2', Good t' r) : Sub Alike (mergeOr se g1 g2) (mergeOr se g1' g2') := by
  intro x hx
  unfold mergeOr at hx ⊢
  rcases List.mem_append.1 hx with h | h
  · rcases h1 x (List.mem_filter.1 h).1 with ⟨a', ha', ra⟩
    by_cases hd : (g2'.any fun b => sameTags se a' b) = true
    · rcases List.any_eq_true.1 hd with ⟨b', hb', hs⟩
      exact ⟨b', List.mem_append_right _ hb', ra.trans (sameTags_alike hu hne hs (hg1 a' ha') (hg2 b' hb'))⟩
    · exact ⟨a', List.mem_append_left _ (List.mem_filter.2 ⟨ha', by simpa using hd⟩), ra⟩
  · rcases h2 x h with ⟨b, hb, hr⟩
    exact ⟨b, List.mem_append_right _ hb, hr⟩

theorem chain_rel {l l' : List Node} {c c' : Node} (hc : c.id = c'.id) (hl : l.map ι = l'.map ι) :
    Sub Alike (chain c l) (chain c' l') := by
  fun_induction chain c l generalizing c' l' with
  | case1 => exact Sub.nil
  | case2 c g anc htr ih =>
    cases l' with
    | nil => nomatch hl
    | cons g' anc' =>
      have hh := List.cons.inj hl
      rw [chain, if_pos (ι_truthy hh.1 ▸ htr)]
      exact (Sub.single ⟨hh.1, hh.2, .of_eq (by rw [List.map_singleton, List.map_singleton, hc])⟩).append
        (ih (ι_id hh.1) hh.2)
  | case3 => exact Sub.nil

theorem chain0_rel {g g' : Node} {anc anc' : List Node} (hg : ι g = ι g') (ha : anc.map ι = anc'.map ι) :
    Sub Alike (chain0 g anc) (chain0 g' anc') := by
  rw [chain0, chain0, ← ι_truthy hg]
  split
  · exact (Sub.single ⟨hg, ha, List.Perm.refl _⟩).append (chain_rel (ι_id hg) ha)
  · exact Sub.nil

theorem parents_rel {rs rs' : List Result} (h : Sub Alike rs rs') : Sub Alike (parents rs) (parents rs') := by
  intro x hx
  rcases mem_parents.1 hx with ⟨r, hr, p, rest, hflag, hanc, htr, rfl⟩
  rcases h r hr with ⟨r', hr', rr⟩
  have hmap := rr.2.1.symm
  rw [hanc, List.map_cons, List.map_eq_cons_iff] at hmap
  rcases hmap with ⟨p', rest', hanc', hp, hrest⟩
  exact ⟨_, mem_parents.2 ⟨r', hr', p', rest', by rw [← ι_flag rr.1]; exact hflag, hanc',
      by rw [ι_truthy hp]; exact htr, rfl⟩,
    hp.symm, hrest.symm, .of_eq (by rw [List.map_singleton, List.map_singleton, ι_id rr.1])⟩

theorem filterExact_rel {rs rs' : List Result} (h : Sub Alike rs rs') : Sub Alike (filterExact rs) (filterExact rs') := by
  refine h.filter fun x y rr hx => ?_
  have hl := rr.2.2.length_eq
  rw [List.length_map, List.length_map] at hl
  rw [beq_iff_eq] at hx ⊢
  rw [← ι_len rr.1, ← hl]
  exact hx

theorem wildOk_κ {w : Wild} {k k' : Node} (h : κ k = κ k') : wildOk w k = wildOk w k' := by
  cases w <;> cases k <;> cases k' <;> simp_all [κ, Node.isTag, wildOk]

theorem termResults_rel {t t' : Tree} (c : Ctx se t t') {text : Str} {mode : Mode} {nil exact : Bool} :
    Sub Alike (termResults t text mode nil exact) (termResults t' text mode nil exact) := by
  have hF : ∀ {t t' : Tree}, Sub TH (allTags t) (allTags t') →
      Sub TH ((allTags t).filter (fun h => tagMatches text mode h.info))
        ((allTags t').filter (fun h => tagMatches text mode h.info)) :=
    fun hs => hs.filter fun x y hr hx => hr.1 ▸ hx
  have h1 := hF c.tags
  have h2 := hF c.tags'
  unfold termResults
  dsimp only
  -- the `@` case: nothing when the term occurs, which it does in both annotations or in neither
  rw [Sub.isEmpty_eq h1 h2]
  cases nil <;> cases exact <;> simp only [eq_self, if_true, Bool.false_eq_true, if_false]
  · exact h1.flatMap fun h h' hr => chain_rel (by rw [hr.1])
      (by rw [List.map_cons, List.map_cons, hr.2.1, hr.2.2])
  · exact h1.map fun h h' hr => ⟨hr.2.1, hr.2.2, .of_eq (by rw [hr.1])⟩
  · split
    · exact Sub.nil
    · exact c.groups.flatMap fun g g' gr => chain0_rel gr.1 gr.2.2
  · split
    · exact Sub.nil
    · exact c.groups.map fun g g' gr => ⟨gr.1, gr.2.2, List.Perm.refl _⟩

theorem wildResults_rel {t t' : Tree} (c : Ctx se t t') {w : Wild} :
    Sub Alike (wildResults t w) (wildResults t' w) := by
  intro x hx
  rcases mem_wildResults.1 hx with ⟨g, hg, k, hk, hw, rfl⟩
  rcases c.groups g hg with ⟨g', hg', gr⟩
  rcases List.mem_map.1 (gr.2.1.mem_iff.1 (List.mem_map.2 ⟨k, hk, rfl⟩)) with ⟨k', hk', hκ⟩
  exact ⟨_, mem_wildResults.2 ⟨g', hg', k', hk', by rw [wildOk_κ hκ]; exact hw, rfl⟩, gr.1, gr.2.2,
    .of_eq (by rw [List.map_singleton, List.map_singleton, ← (Prod.mk.inj hκ).1])⟩

/-- needs the reverse direction for the results negated -/
theorem negResults_rel {t t' : Tree} (c : Ctx se t t') {rs rs' : List Result} (h : Sub Alike rs' rs) :
    Sub Alike (negResults t rs) (negResults t' rs') := by
  intro x hx
  rcases mem_negResults.1 hx with ⟨g, hg, hn, rfl⟩
  rcases c.groups g hg with ⟨g', hg', gr⟩
  refine ⟨_, mem_negResults.2 ⟨g', hg', fun r' hr' heq => ?_, rfl⟩, gr.1, gr.2.2, List.Perm.refl _⟩
  rcases h r' hr' with ⟨r0, hr0, rr⟩
  exact hn r0 hr0 (by rw [← ι_id rr.1, heq, ι_id gr.1])

theorem evalE_sub (q : Expr) {t t' : Tree} (c : Ctx se t t') (ex : Bool) :
    Sub Alike (evalE se t q ex) (evalE se t' q ex) := by
  induction q generalizing t t' ex with
  | term text mode nil => rw [evalE, evalE]; exact termResults_rel c
  | wild w => rw [evalE, evalE]; exact wildResults_rel c
  | and l r ihl ihr =>
    rw [evalE_and, evalE_and]
    exact mergeAnd_rel c.uniq' c.neq' (ihl c ex) (ihr c ex) (evalE_good t' l ex)
  | or l r ihl ihr =>
    rw [evalE, evalE]
    exact mergeOr_rel c.uniq' c.neq' (ihl c ex) (ihr c ex) (evalE_good t' l ex) (evalE_good t' r ex)
  | neg r ih => rw [evalE, evalE]; exact negResults_rel c (ih c.symm ex)
  | desc r ih | exactAny r ih => rw [evalE, evalE]; exact parents_rel (ih c _)
  | exactNone r ih => rw [evalE_exactNone, evalE_exactNone]; exact parents_rel (filterExact_rel (ih c true))
  | exactOpt r l ihr ihl =>
    rw [evalE_exactOpt, evalE_exactOpt]
    have hf := filterExact_rel (ihr c true)
    have hf' := filterExact_rel (ihr c.symm true)
    have hm := filterExact_rel (mergeAnd_rel c.uniq' c.neq' (ihr c true) (ihl c true)
      (evalE_good t' r true))
    rw [Sub.isEmpty_eq hf hf']
    split
    · exact parents_rel hm
    · exact parents_rel hf

theorem uniq_transfer {t t' : Tree} (hs : Sub GH (allGroups t') (allGroups t)) (hu : UniqueIds t) :
    UniqueIds t' := by
  intro g' hg' h' hh' hid
  rcases hs g' hg' with ⟨g, hg, rg⟩
  rcases hs h' hh' with ⟨h, hh, rh⟩
  have := hu g hg h hh (by rw [← ι_id rg.1, ← ι_id rh.1]; exact hid)
  exact ⟨rg.1.trans (this.1.trans rh.1.symm), rg.2.2.trans (this.2.trans rh.2.2.symm)⟩

theorem ctx_of_shuf {t t' : Tree} (hs : ShufT t t') (hu : UniqueIds t)
    (hne : se = true → NoEqualGroups t ∧ NoEqualGroups t') : Ctx se t t' := by
  rcases hs with ⟨hid, hl⟩
  have hroot : Shuf t.root t'.root := by
    rw [Tree.root, Shuf]
    exact ⟨t'.kids, by rw [Tree.root, hid], hl⟩
  have ht := shufL_flatMap (R := TH) t.kids t'.kids hl fun k _ k' hs =>
    shuf_tagsIn t.root t'.root [] [] (shuf_ι hroot) rfl k k' hs
  have hg := shuf_groupsIn [] [] rfl _ _ hroot
  rw [← tagsInL_eq, ← tagsInL_eq] at ht
  rw [← allGroups_eq, ← allGroups_eq] at hg
  exact ⟨ht.1, ht.2, hg.1, hg.2, hu, uniq_transfer hg.2 hu, fun h => (hne h).1, fun h => (hne h).2⟩

theorem isMatchWith_ctx {t t' : Tree} (c : Ctx se t t') {q : Expr} : isMatchWith se q t = isMatchWith se q t' :=
  congrArg not (Sub.isEmpty_eq (evalE_sub q c false) (evalE_sub q c.symm false))

/-! ### for the evaluated examples -/

instance (bs : List Br) : Decidable (Balanced bs) := by unfold Balanced; infer_instance

instance : DecidableEq (Except ParseErr Expr)
  | .ok a, .ok b => if h : a = b then isTrue (by rw [h]) else isFalse (by intro h'; cases h'; exact h rfl)
  | .error a, .error b => if h : a = b then isTrue (by rw [h]) else isFalse (by intro h'; cases h'; exact h rfl)
  | .ok _, .error _ => isFalse (by intro h; cases h)
  | .error _, .ok _ => isFalse (by intro h; cases h)

end HedVerif.Query

namespace HedVerif.C15
open HedVerif.Query

variable {se : Bool}

/-- the result accounts for every child of its group -/
def Full (r : Result) : Prop := r.group.kids.length = r.tags.length

theorem mem_filterExact {rs : List Result} {r : Result} : r ∈ filterExact rs ↔ r ∈ rs ∧ Full r := by
  rw [filterExact, List.mem_filter, beq_iff_eq]
  rfl

theorem parents_filterExact_ne_nil {t : Tree} {rs : List Result} (hrs : ∀ r ∈ rs, Good t r) :
    parents (filterExact rs) ≠ [] ↔ ∃ r ∈ rs, Full r ∧ Liftable r := by
  rw [parents_ne_nil_iff (filterExact_good hrs)]
  simp only [mem_filterExact, and_assoc]

/-- **Bare term.** A bare term matches exactly when some tag has the word among its schema-path terms
(`tag.tag_terms`). -/
theorem term (w : Str) (t : Tree) :
    isMatchWith se (.term w .terms false) t = true ↔ ∃ h ∈ allTags t, w ∈ h.info.terms := by
  rw [term_match]; simp [tagMatches]

/-- **Quoted term** (and a term with `/`): only the exact tag, compared casefolded. -/
theorem term_quoted (w : Str) (t : Tree) :
    isMatchWith se (.term w .exact false) t = true ↔ ∃ h ∈ allTags t, h.info.fold = w := by
  rw [term_match]; simp [tagMatches]

/-- **Trailing star**: prefix of the casefolded short form. -/
theorem term_prefix (w : Str) (t : Tree) :
    isMatchWith se (.term w .pref false) t = true ↔ ∃ h ∈ allTags t, w <+: h.info.fold := by
  rw [term_match]; simp [tagMatches]

/-- **`A || B` matches iff `A` matches or `B` matches** (the duplicate filter never empties the result). -/
theorem or_iff (A B : Expr) (t : Tree) :
    isMatchWith se (.or A B) t = true ↔ isMatchWith se A t = true ∨ isMatchWith se B t = true := by
  simp only [isMatchWith, evalWith]
  rw [evalE, mergeOr_isEmpty]
  simp

/-- **`||` is symmetric.** -/
theorem or_comm (A B : Expr) (t : Tree) : isMatchWith se (.or A B) t = isMatchWith se (.or B A) t := by
  rw [Bool.eq_iff_iff, or_iff, or_iff]; exact Or.comm

/-- **`||` is associative.** -/
theorem or_assoc (A B C : Expr) (t : Tree) :
    isMatchWith se (.or (.or A B) C) t = isMatchWith se (.or A (.or B C)) t := by
  rw [Bool.eq_iff_iff, or_iff, or_iff, or_iff, or_iff]; exact _root_.or_assoc

/-- **`A && B` matches only if both do.** -/
theorem and_imp (A B : Expr) (t : Tree) (h : isMatchWith se (.and A B) t = true) :
    isMatchWith se A t = true ∧ isMatchWith se B t = true := by
  rw [isMatchWith_iff, evalE_and, mergeAnd_ne_nil_iff] at h
  rcases h with ⟨a, ha, b, hb, _⟩
  exact ⟨isMatchWith_iff.2 (List.ne_nil_of_mem ha), isMatchWith_iff.2 (List.ne_nil_of_mem hb)⟩

/-- `A && B` matches iff some result of `A` and some result of `B` sit on the same group and share no
child (identity). -/
theorem and_iff (A B : Expr) (t : Tree) :
    isMatchWith se (.and A B) t = true ↔
      ∃ a ∈ evalWith se A t, ∃ b ∈ evalWith se B t,
        a.group.id = b.group.id ∧ ∀ x ∈ a.tags, ∀ y ∈ b.tags, x.id ≠ y.id := by
  rw [isMatchWith_iff, evalE_and, mergeAnd_ne_nil_iff]
  simp only [compat_iff, disj, evalWith]

/-- **`&&` is symmetric.** -/
theorem and_comm (A B : Expr) (t : Tree) :
    isMatchWith se (.and A B) t = isMatchWith se (.and B A) t := by
  rw [Bool.eq_iff_iff, isMatchWith_iff, isMatchWith_iff, evalE_and, evalE_and]
  exact mergeAnd_ne_nil_comm _ _

/-- **Via distinct tags.** Every result of `A && B` is one result of `A` joined with one result of `B` on
the same group, the two sharing no child; its children are exactly the children of the two. -/
theorem and_distinct (A B : Expr) (t : Tree) (r : Result) (h : r ∈ evalWith se (.and A B) t) :
    ∃ a ∈ evalWith se A t, ∃ b ∈ evalWith se B t,
      a.group.id = b.group.id ∧ (∀ x ∈ a.tags, ∀ y ∈ b.tags, x.id ≠ y.id) ∧
      r.group = a.group ∧ ∀ n, n ∈ r.tags ↔ (n ∈ a.tags ∨ n ∈ b.tags) := by
  unfold evalWith at h
  rw [evalE_and] at h
  rcases mem_mergeAnd h with ⟨a, ha, b, hb, hc, rfl⟩
  rw [compat_iff] at hc
  exact ⟨a, ha, b, hb, hc.1, hc.2, rfl, fun _ => (mergeRes_perm hc.2).mem_iff.trans List.mem_append⟩

/-- both code versions at once -/
theorem and_assoc_gen (A B C : Expr) (t : Tree) (hne : se = true → NoEqualGroups t) :
    isMatchWith se (.and (.and A B) C) t = isMatchWith se (.and A (.and B C)) t := by
  rw [Bool.eq_iff_iff, isMatchWith_iff, isMatchWith_iff]
  simp only [evalE_and]
  rw [mergeAnd_ne_nil_comm (evalE se t A false), mergeAnd3_ne_nil_iff hne (evalE_good t A false),
    mergeAnd3_ne_nil_iff hne (evalE_good t B false)]
  constructor
  · rintro ⟨a, ha, b, hb, c, hc, h1, h2, dab, dac, dbc⟩
    exact ⟨b, hb, c, hc, a, ha, h1.symm.trans h2, h1.symm, dbc, dab.symm, dac.symm⟩
  · rintro ⟨b, hb, c, hc, a, ha, h1, h2, dbc, dba, dca⟩
    exact ⟨a, ha, b, hb, c, hc, h2.symm, h2.symm.trans h1, dba.symm, dca.symm, dbc⟩

/-- **`&&` is associative** (repaired code), at the level of "matches". -/
theorem and_assoc (A B C : Expr) (t : Tree) :
    isMatch (.and (.and A B) C) t = isMatch (.and A (.and B C)) t :=
  and_assoc_gen (se := false) A B C t (by simp)

/-- the code before the repair is associative on annotations in which no two distinct groups are equal -/
theorem and_assoc_partial (A B C : Expr) (t : Tree) (hne : NoEqualGroups t) :
    isMatchWith true (.and (.and A B) C) t = isMatchWith true (.and A (.and B C)) t :=
  and_assoc_gen (se := true) A B C t (fun _ => hne)

/-- **Negation**: `~A` matches iff some group of the annotation (the string itself included) is not the
group of any result of `A`. -/
theorem negation (A : Expr) (t : Tree) :
    isMatchWith se (.neg A) t = true ↔
      ∃ g ∈ allGroups t, ∀ r ∈ evalWith se A t, r.group.id ≠ g.group.id := by
  rw [isMatchWith_iff, evalE, ne_nil_iff_exists_mem]
  constructor
  · rintro ⟨x, hx⟩
    rcases mem_negResults.1 hx with ⟨g, hg, hn, _⟩
    exact ⟨g, hg, hn⟩
  · rintro ⟨g, hg, hn⟩
    exact ⟨_, mem_negResults.2 ⟨g, hg, hn, rfl⟩⟩

/-- **Descendant group**: `[A]` matches iff `A` has a result on a parenthesised group that has a parent (any
group except the string itself): the result is lifted to that parent. -/
theorem descendant (A : Expr) (t : Tree) :
    isMatchWith se (.desc A) t = true ↔ ∃ r ∈ evalWith se A t, Liftable r := by
  rw [isMatchWith_iff, evalE, parents_ne_nil_iff (evalE_good t A false)]; rfl

/-- **Exact group `{A}`**: the same, with `A` evaluated *exactly* (a term's result is only the group that
directly contains the tag, not its ancestors). -/
theorem exact_any (A : Expr) (t : Tree) :
    isMatchWith se (.exactAny A) t = true ↔ ∃ r ∈ evalE se t A true, Liftable r := by
  rw [isMatchWith_iff, evalE, parents_ne_nil_iff (evalE_good t A true)]

/-- **`{A:}`**: an exact result of `A` that uses every child of its group, on a liftable group. -/
theorem exact_none (A : Expr) (t : Tree) :
    isMatchWith se (.exactNone A) t = true ↔ ∃ r ∈ evalE se t A true, Full r ∧ Liftable r := by
  rw [isMatchWith_iff, evalE_exactNone, parents_filterExact_ne_nil (evalE_good t A true)]

/-- **`{A: B}`**: as `{A:}`; only if *no* exact result of `A` is full, a result of `A` merged (as by `&&`:
same group, no shared child) with an exact result of `B` may be the full one. -/
theorem exact_opt (A B : Expr) (t : Tree) :
    isMatchWith se (.exactOpt A B) t = true ↔
      (∃ r ∈ evalE se t A true, Full r ∧ Liftable r) ∨
      ((∀ r ∈ evalE se t A true, ¬ Full r) ∧
        ∃ r ∈ mergeAnd se (evalE se t A true) (evalE se t B true), Full r ∧ Liftable r) := by
  rw [isMatchWith_iff, evalE_exactOpt]
  have hA := evalE_good (se := se) t A true
  by_cases h1 : filterExact (evalE se t A true) = []
  · have hno : ∀ r ∈ evalE se t A true, ¬ Full r := fun r hr hf =>
      List.ne_nil_of_mem (mem_filterExact.2 ⟨hr, hf⟩) h1
    rw [h1, List.isEmpty_nil, if_pos rfl, parents_filterExact_ne_nil (mergeAnd_good hA)]
    exact ⟨fun h => Or.inr ⟨hno, h⟩, fun h => h.elim (fun ⟨r, hr, hf, _⟩ => absurd hf (hno r hr)) (·.2)⟩
  · rw [if_neg (by rwa [List.isEmpty_iff]), parents_filterExact_ne_nil hA]
    refine ⟨Or.inl, fun h => h.elim id fun ⟨hno, _⟩ => ?_⟩
    rcases List.exists_mem_of_ne_nil _ h1 with ⟨r, hr⟩
    exact absurd (mem_filterExact.1 hr).2 (hno r (mem_filterExact.1 hr).1)

/-- **`{A: B}` is `{A:} || {A && B:}`** whenever every full exact result of `A` sits on a liftable group (not
automatic even for a single term: `a` on the annotation `A`).  Without the hypothesis the early return of
`ExpressionExactMatch.handle_expr` (`if filtered_list: return ...`) can hide the optional branch:
`exact_optional_counterexample`. -/
theorem exact_optional_equiv (A B : Expr) (t : Tree)
    (h : ∀ r ∈ evalE se t A true, Full r → Liftable r) :
    isMatchWith se (.exactOpt A B) t = isMatchWith se (.or (.exactNone A) (.exactNone (.and A B))) t := by
  rw [Bool.eq_iff_iff, exact_opt, or_iff, exact_none, exact_none, evalE_and]
  refine ⟨fun h' => h'.imp_right And.right, fun h' => h'.elim Or.inl fun h2 => ?_⟩
  by_cases hn : ∃ r ∈ evalE se t A true, Full r
  · rcases hn with ⟨r, hr, hf⟩
    exact Or.inl ⟨r, hr, hf, h r hr hf⟩
  · exact Or.inr ⟨fun r hr hf => hn ⟨r, hr, hf⟩, h2⟩

/-- **Wildcards**: `?` / `??` / `???` match iff some group (the string included) has a child / a tag child / a
group child. -/
theorem wildcard (w : Wild) (t : Tree) :
    isMatchWith se (.wild w) t = true ↔ ∃ g ∈ allGroups t, ∃ k ∈ g.group.kids, wildOk w k = true := by
  rw [isMatchWith_iff, evalE, ne_nil_iff_exists_mem]
  constructor
  · rintro ⟨x, hx⟩
    rcases mem_wildResults.1 hx with ⟨g, hg, k, hk, hw, _⟩
    exact ⟨g, hg, k, hk, hw⟩
  · rintro ⟨g, hg, k, hk, hw⟩
    exact ⟨_, mem_wildResults.2 ⟨g, hg, k, hk, hw, rfl⟩⟩

/-- **Sibling order** (repaired code): reordering the children of the top level and of any groups, at any
depth, does not change whether a query matches. -/
theorem sibling_order (q : Expr) (t t' : Tree) (hs : ShufT t t') (hu : UniqueIds t) :
    isMatch q t = isMatch q t' :=
  isMatchWith_ctx (ctx_of_shuf (se := false) hs hu (by simp))

/-- the code before the repair of `has_same_tags`: only when neither annotation has two equal distinct groups -/
theorem sibling_order_partial (q : Expr) (t t' : Tree) (hs : ShufT t t') (hu : UniqueIds t)
    (hne : NoEqualGroups t) (hne' : NoEqualGroups t') :
    isMatchWith true q t = isMatchWith true q t' :=
  isMatchWith_ctx (ctx_of_shuf (se := true) hs hu (fun _ => ⟨hne, hne'⟩))

/-- **Searching never alters the annotation**, as far as a pure function can say it: every result *refers* to a
group of the annotation searched, with that group's real ancestors. -/
theorem pure (q : Expr) (t : Tree) :
    ∀ r ∈ evalWith se q t, (⟨r.group, r.anc⟩ : GroupHit) ∈ allGroups t :=
  evalE_good t q false

/-- **Batch interface** (`search_hed_objs`): the cell of object `i` and query `j` of the factor table is 1
exactly when the object is non-empty and the single search `bool(queries[j].search(objs[i]))` is true. -/
theorem batch_eq_single (objs : List Tree) (queries : List Expr) (i j : Nat) (o : Tree) (q : Expr)
    (ho : objs[i]? = some o) (hq : queries[j]? = some q) :
    (searchObjs se objs queries)[i]?.bind (fun row => row[j]?) = some (cellOf se q o) := by
  have hi : i < objs.length := (List.getElem?_eq_some_iff.1 ho).1
  have hj : j < queries.length := (List.getElem?_eq_some_iff.1 hq).1
  unfold searchObjs
  simp only [List.getElem?_map, List.getElem?_range hi, List.getElem?_range hj, Option.map_some,
    Option.bind_some]
  rw [setOps_contains ho hq, cellOf]
  cases o.truthy <;> cases isMatchWith se q o <;> rfl

/-- **`get_query_handlers`**: one handler per query, present exactly when the query compiles; the number of
issues is at least the number of queries that do not compile (the names are not constrained here). -/
theorem handlers_spec (queries : List Str) (names : Option (List Str)) (hs : List (Option Expr))
    (nm : List Str) (n : Nat) (h : getHandlers queries names = some (hs, nm, n)) :
    hs.length = queries.length ∧
    (∀ (i : Nat) (q : Str), queries[i]? = some q → hs[i]? = some (match parse q with | .ok e => some e | .error _ => none)) ∧
    (queries.filter (fun q => match parse q with | .ok _ => false | .error _ => true)).length ≤ n := by
  unfold getHandlers at h
  by_cases hq : queries.isEmpty = true
  · rw [if_pos hq] at h
    cases h
  · rw [if_neg hq] at h
    cases h
    refine ⟨List.length_map _, ?_, ?_⟩
    · intro i q hq
      rw [List.getElem?_map, hq]; rfl
    · have : (fun q => match parse q with | .ok _ => false | .error _ => true) =
          (fun h => h.isNone) ∘ (fun q => match parse q with | .ok e => some e | .error _ => none) := by
        funext q
        rw [Function.comp]
        cases parse q <;> rfl
      rw [List.filter_map, List.length_map, this]
      exact Nat.le_add_left _ _

/-- **Every query text either compiles or is rejected with a parse error** (every partial step of the Python
code - the token index, the look-ahead - is an explicit check in the model; the model's own recursion bound is
never reached).  Both code versions. -/
theorem parse_total (s : Str) (lg : Bool) :
    (∃ e, parseWith lg s = .ok e) ∨ (∃ err, parseWith lg s = .error err ∧ err ≠ .fuel) := by
  cases h : parseWith lg s with
  | ok e => exact Or.inl ⟨e, rfl⟩
  | error err =>
    refine Or.inr ⟨err, rfl, ?_⟩
    rintro rfl
    exact parseToks_spec.1 h

theorem compiled_balanced (s : Str) (e : Expr) (h : parse s = .ok e) : Balanced (textBrs s) := by
  have := parseToks_spec.2 e h rfl
  rwa [← tokenize, tokenize_brs, asciiFold_brs] at this

/-- **Unbalanced grouping symbols `( ) [ ] { }` are always rejected** (repaired code). -/
theorem unbalanced_rejected (s : Str) (h : ¬ Balanced (textBrs s)) :
    ∃ err, parse s = .error err ∧ err ≠ .fuel :=
  (parse_total s false).resolve_left fun ⟨e, he⟩ => h (compiled_balanced s e he)

/-- **The code before the repair violates the clause**: a lone `)`, `]` or `}` compiled (the term branch of
`_handle_grouping_op` wrapped any token into a search term), and so did the legacy token `]]`. -/
theorem legacy_unbalanced_counterexample :
    (parseWith true [')'] = .ok (.term [')'] .terms false) ∧ ¬ Balanced (textBrs [')'])) ∧
    (parseWith true [']'] = .ok (.term [']'] .terms false) ∧ ¬ Balanced (textBrs [']'])) ∧
    (parseWith true ['}'] = .ok (.term ['}'] .terms false) ∧ ¬ Balanced (textBrs ['}'])) ∧
    (parseWith true [']', ']'] = .ok (.term [']', ']'] .terms false) ∧ ¬ Balanced (textBrs [']', ']'])) := by
  decide +kernel

/-! `parse` rejects those witnesses and other stray symbols; well-formed queries compile -/
example : parse [')'] = .error .unexpected := by decide +kernel
example : parse [']'] = .error .unexpected := by decide +kernel
example : parse ['}'] = .error .unexpected := by decide +kernel
example : parse ['&', '&'] = .error .unexpected := by decide +kernel
example : parse [':'] = .error .unexpected := by decide +kernel
example : parse ['~', '~'] = .error .unexpected := by decide +kernel
example : parse ['[', '['] = .error .nextToken := by decide +kernel
example : parse [']', ']'] = .error .unexpected := by decide +kernel
example : parse ['a', ' ', ')'] = .error .trailing := by decide +kernel
example : parse ['(', 'a'] = .error .missingParen := by decide +kernel
example : parse [] = .error .nextToken := by decide +kernel
example : parse ['[', '[', 'a', ']', ']'] = .ok (.desc (.desc (.term ['a'] .terms false))) := by decide +kernel
example : parse ['R', 'e', 'd'] = .ok (.term ['r', 'e', 'd'] .terms false) := by decide +kernel
example : parse ['"', 'R', 'e', 'd', '"'] = .ok (.term ['r', 'e', 'd'] .exact false) := by decide +kernel
example : parse ['r', 'e', '*'] = .ok (.term ['r', 'e'] .pref false) := by decide +kernel
example : parse ['{', 'a', ':', '~', 'b', '}'] = .error .negInExact := by decide +kernel
example : parse ['~', '?'] = .error .negWildcard := by decide +kernel
example : parse ['{', 'a', ',', 'b', ':', '}'] =
    .ok (.exactNone (.and (.term ['a'] .terms false) (.term ['b'] .terms false))) := by decide +kernel
example : parse ['a', '|', '|', 'b', '&', '&', '~', 'c'] =
    .ok (.or (.term ['a'] .terms false) (.and (.term ['b'] .terms false) (.neg (.term ['c'] .terms false)))) := by
  decide +kernel

/-- `(A, B), C, D` with unique ids -/
def demoTree : Tree :=
  ⟨0, [.group 1 true [.tag ⟨2, ['A'], ['a'], ['a'], [['a']]⟩, .tag ⟨3, ['B'], ['b'], ['b'], [['b']]⟩],
       .tag ⟨4, ['C'], ['c'], ['c'], [['c']]⟩, .tag ⟨5, ['D'], ['d'], ['d'], [['d']]⟩]⟩

/-! non-vacuity: `(a && c) && ??` matches `demoTree`; `NoEqualGroups` holds on it and fails on `(R),(R)` -/
example : NoEqualGroups demoTree := by unfold NoEqualGroups; decide +kernel
example : isMatch (.and (.and (.term ['a'] .terms false) (.term ['c'] .terms false)) (.wild .tags)) demoTree = true := by
  decide +kernel
example : isMatch (.and (.term ['a'] .terms false) (.term ['a'] .terms false)) demoTree = false := by decide +kernel

/-- `(R),(R)`: two distinct equal groups -/
def twinTree : Tree :=
  ⟨0, [.group 1 true [.tag ⟨2, ['R'], ['r'], ['r'], [['r']]⟩],
       .group 3 true [.tag ⟨4, ['R'], ['r'], ['r'], [['r']]⟩]]⟩

example : ¬ NoEqualGroups twinTree := by unfold NoEqualGroups; decide +kernel

/-- **The code before the repair of `has_same_tags` is not associative**: with `A = ~(~g && ~b)`, `B = ~y`,
`C = ~p` on `(R),(R)`, `(A && B) && C` matches and `A && (B && C)` does not (the result on the second of
the two equal groups is dropped as a "duplicate" of the first). -/
theorem legacy_assoc_counterexample :
    let nt (w : Char) : Expr := .neg (.term [w] .terms false)
    let A : Expr := .neg (.and (nt 'g') (nt 'b'))
    isMatchWith true (.and (.and A (nt 'y')) (nt 'p')) twinTree = true ∧
    isMatchWith true (.and A (.and (nt 'y') (nt 'p'))) twinTree = false := by
  decide +kernel

def tagN (i : Nat) (c : Char) : Query.Node := .tag ⟨i, [c], [c], [c], [[c]]⟩

/-- `((R),C),((R),S)` -/
def orderTree1 : Tree :=
  ⟨0, [.group 1 true [.group 2 true [tagN 3 'r'], tagN 4 'c'], .group 5 true [.group 6 true [tagN 7 'r'], tagN 8 's']]⟩
/-- `((R),S),((R),C)`: the same objects, top level reordered -/
def orderTree2 : Tree :=
  ⟨0, [.group 5 true [.group 6 true [tagN 7 'r'], tagN 8 's'], .group 1 true [.group 2 true [tagN 3 'r'], tagN 4 'c']]⟩

/-- **The code before the repair of `has_same_tags` depends on sibling order**: `[[~g && ~b] && s]` does not
match `((R),C),((R),S)` but matches the reordered `((R),S),((R),C)` (the `~g && ~b` result on the second `(R)`
is dropped as a "duplicate" of the one on the first, equal, group); the repaired code matches both. -/
theorem legacy_sibling_order_counterexample :
    let q : Expr := .desc (.and (.desc (.and (.neg (.term ['g'] .terms false)) (.neg (.term ['b'] .terms false))))
      (.term ['s'] .terms false))
    ShufT orderTree1 orderTree2 ∧ UniqueIds orderTree1 ∧
    isMatchWith true q orderTree1 = false ∧ isMatchWith true q orderTree2 = true ∧
    isMatch q orderTree1 = true ∧ isMatch q orderTree2 = true := by
  refine ⟨⟨rfl, ?_⟩, by unfold UniqueIds; decide +kernel, by decide +kernel, by decide +kernel, by decide +kernel, by decide +kernel⟩
  unfold orderTree1 orderTree2
  rw [ShufL]
  exact ⟨_, _, shuf_refl _, shufL_refl fun k _ => shuf_refl k, List.Perm.swap _ _ _⟩

example : UniqueIds demoTree := by unfold UniqueIds; decide +kernel

/-- the hypothesis of `exact_optional_equiv` is needed: on `(A,B)` the string itself fully satisfies `??? || a`, so
`{??? || a: b}` returns the (unliftable) string and does not match, while `{(??? || a) && b:}` matches the group.
(Same on the real code: `{??? || red: blue}` on `(Red,Blue)`.) -/
theorem exact_optional_counterexample :
    let A : Expr := .or (.wild .groups) (.term ['a'] .terms false)
    let B : Expr := .term ['b'] .terms false
    let t : Tree := ⟨0, [.group 1 true [tagN 2 'a', tagN 3 'b']]⟩
    isMatch (.exactOpt A B) t = false ∧ isMatch (.or (.exactNone A) (.exactNone (.and A B))) t = true := by
  decide +kernel

end HedVerif.C15
