/-
C18 — Backups restore byte-for-byte and are never half-valid.
Theorems about `Model/Backup.lean` on the step model `Model/FS.lean` (DESIGN.md section 7, C18).
-/
import HedVerif.Model.Backup
namespace HedVerif.C18
open HedVerif.FS HedVerif.Backup

/-! ## A torn record is never accepted

Characters inside a JSON string are the symbols `.s _` (so `.s '}'` is not a brace), hence no proper prefix of the
rendered record contains the closing brace `.rb`, while `parse` demands it as the last symbol. -/

theorem u4_noRb (n : Nat) : Sym.rb ∉ u4 n := by
  simp [u4]

theorem escape_noRb (ch : Char) : Sym.rb ∉ escape ch := by
  simp [escape, apply_ite (Sym.rb ∈ ·), u4_noRb]

theorem entry_noRb (ts : List Char) (k : Key) : Sym.rb ∉ entry ts k := by
  simp [entry, strToks, escape_noRb]

theorem entries_noRb (ts : List Char) : ∀ ks : List Key, Sym.rb ∉ entries ts ks
  | [] => by simp [entries]
  | [k] => entry_noRb ts k
  | k :: k2 :: r => by simp [entries, entry_noRb, entries_noRb ts (k2 :: r)]

theorem body_noRb (ts : List Char) (ks : List Key) : Sym.rb ∉ recordBody ts ks := by
  unfold recordBody
  split <;> simp [entries_noRb]

/-- No strict prefix of the record text is accepted by `json.load`. -/
theorem torn_record_rejected (ts : List Char) (ks : List Key) (n : Nat)
    (h : n < (record ts ks).length) : parse ((record ts ks).take n) = none := by
  have hn : n ≤ (recordBody ts ks).length := by simp [record] at h; omega
  have ht : (record ts ks).take n = (recordBody ts ks).take n := by
    simp [record, List.take_append_of_le_length hn]
  unfold parse
  rw [ht]
  split
  · rename_i hl
    exact absurd (List.mem_of_mem_take (List.mem_of_getLast? hl)) (body_noRb ts ks)
  · rfl

theorem bdir_prefix_broot (c : Cfg) : c.bdir <+: c.broot :=
  ⟨[rootName], by simp [Cfg.bdir, Cfg.broot]⟩

theorem bdir_prefix_bpath (c : Cfg) (f : Path) : c.bdir <+: c.bpath f :=
  (bdir_prefix_broot c).trans ⟨f, rfl⟩

theorem bdir_prefix_lock (c : Cfg) : c.bdir <+: c.lock :=
  ⟨[lockName], by simp [Cfg.bdir, Cfg.lock]⟩

theorem lock_not_under_broot (c : Cfg) : ¬ c.broot <+: c.lock := by
  intro h
  simp only [Cfg.broot, Cfg.lock] at h
  rw [List.prefix_append_right_inj, List.prefix_cons_inj, List.cons_prefix_cons] at h
  exact absurd h.1 (by decide)

theorem mkdirs_tgt (c : Cfg) (d : Path) :
    Writes (mkdirsSteps c.backups ([c.name, rootName] ++ d) : List (Step Sym)) (fun q => q = c.bdir ∨ c.broot <+: q) :=
  (mkdirsSteps_tgt _ _).mono fun q ⟨i, hi⟩ => by
    subst hi
    cases i with
    | zero => exact .inl rfl
    | succ j => exact .inr ⟨d.take j, by simp [Cfg.broot]⟩

theorem copyPhase_tgt (c : Cfg) (s0 : St) (files : List Path) :
    Writes (copyPhase c s0 files) (fun q => q = c.bdir ∨ c.broot <+: q) := by
  intro st hst
  simp only [copyPhase, List.mem_append, List.mem_flatMap] at hst
  rcases hst with h | ⟨f, _, h⟩
  · exact mkdirs_tgt c [] st h
  · exact ((mkdirs_tgt c _).append ((writeSteps_tgt _ _).mono fun q hq => .inr (hq ▸ ⟨f, rfl⟩))) st h

theorem copyPhase_lock (c : Cfg) (s0 : St) (files : List Path) (k : Nat) (s : St) :
    get (exec ((copyPhase c s0 files).take k) s) c.lock = get s c.lock := by
  apply get_exec
  intro st hst hq
  rcases ((copyPhase_tgt c s0 files).take k st hst).2 _ hq with h | h
  · simp [Cfg.lock, Cfg.bdir] at h
  · exact lock_not_under_broot c h

theorem lockPhase_broot (c : Cfg) (files : List Path) (j : Nat) (s : St) (p : Path) (hp : c.broot <+: p) :
    get (exec ((lockPhase c files).take j) s) p = get s p := by
  apply get_exec
  intro st hst hq
  have := (writeSteps_tgt _ _ st (List.mem_of_mem_take hst)).2 p hq
  subst this
  exact lock_not_under_broot c hp

theorem createSteps_tgt (c : Cfg) (s0 : St) (files : List Path) : Writes (createSteps c s0 files) (c.bdir <+: ·) :=
  ((copyPhase_tgt c s0 files).mono fun _ h => h.elim (· ▸ List.prefix_refl _) (bdir_prefix_broot c).trans).append
    ((writeSteps_tgt _ _).mono fun _ hq => hq ▸ bdir_prefix_lock c)

theorem get_perFile (c : Cfg) (s0 s : St) (f p : Path) (b : List Sym) :
    get (exec (perFile c s0 f) s) p = some (.reg b) ↔
      if c.bpath f = p then b = srcOf c s0 f else get s p = some (.reg b) := by
  rw [perFile, exec_append, get_writeSteps]
  split
  · simp [eq_comm]
  · exact get_mkdirs_reg ..

theorem get_perFiles (c : Cfg) (s0 : St) (l : List Path) (s : St) (f : Path) (b : List Sym) :
    get (exec (l.flatMap (perFile c s0)) s) (c.bpath f) = some (.reg b) ↔
      if f ∈ l then b = srcOf c s0 f else get s (c.bpath f) = some (.reg b) := by
  induction l generalizing s with
  | nil => simp [exec]
  | cons a r ih =>
    rw [List.flatMap_cons, exec_append, ih, get_perFile]
    by_cases ha : a = f
    · subst ha
      by_cases har : a ∈ r <;> simp [har]
    · simp [Cfg.bpath, ha, Ne.symm ha]

theorem get_copyPhase (c : Cfg) (s0 : St) (files : List Path) (s : St) (f : Path) (b : List Sym) :
    get (exec (copyPhase c s0 files) s) (c.bpath f) = some (.reg b) ↔
      if f ∈ files then b = srcOf c s0 f else get s (c.bpath f) = some (.reg b) := by
  rw [copyPhase, exec_append, get_perFiles, get_mkdirs_reg]

theorem scanList_ok {s : St} {B : Path} {l : List Name} {L : Listing} (h : scanList s B l = .ok L) :
    L.map (·.1) = l ∧ ∀ e ∈ L, scanOne s B e.1 = .ok e.2 := by
  fun_induction scanList s B l generalizing L with
  | case1 =>
    cases h
    simp
  | case2 | case3 => cases h
  | case4 a r ks hone L' hr ih =>
    cases h
    exact ⟨by rw [List.map_cons, (ih hr).1], List.forall_mem_cons.mpr ⟨hone, (ih hr).2⟩⟩

theorem scanList_ok_mem {s : St} {B : Path} {l : List Name} {L : Listing} (h : scanList s B l = .ok L)
    {e : Name} {ks : List Key} (hm : (e, ks) ∈ L) : scanOne s B e = .ok ks :=
  (scanList_ok h).2 _ hm

theorem scanList_names {s : St} {B : Path} {l : List Name} {L : Listing} (h : scanList s B l = .ok L)
    (e : Name) : e ∈ l ↔ ∃ ks, (e, ks) ∈ L := by
  rw [← (scanList_ok h).1]
  simp only [List.mem_map, Prod.exists, exists_and_right, exists_eq_right]

theorem scanOne_ok {s : St} {B : Path} {n : Name} {ks : List Key} (h : scanOne s B n = .ok ks) :
    ∃ txt, get s (B ++ [n, lockName]) = some (.reg txt) ∧ parse txt = some ks ∧
      ∀ key ∈ ks, (B ++ [n, rootName]) ++ splitKey key ∈ walk s (B ++ [n, rootName]) := by
  revert h
  fun_cases scanOne s B n
  -- the one branch that ends in `.ok`
  case case9 txt ks' hp _ _ _ hall hf =>
    intro h
    cases h
    rw [List.any_eq_true] at hall
    refine ⟨txt, hf, hp, fun key hk => Classical.byContradiction fun hn => hall ⟨_, List.mem_map_of_mem hk, ?_⟩⟩
    rw [List.contains_eq_mem, decide_eq_false hn]
    rfl
  all_goals exact nofun

/-! ## Crash consistency -/

theorem crashAfter_createSteps (c : Cfg) (s0 : St) (files : List Path) (k : Nat) :
    crashAfter k (createSteps c s0 files) s0 =
      exec ((lockPhase c files).take (k - (copyPhase c s0 files).length)) (exec ((copyPhase c s0 files).take k) s0) := by
  rw [crashAfter, createSteps, List.take_append, exec_append]

/-- `+ 3`: the record phase is `writeSteps` (create, first half, second half, close); the text is complete after
the third. -/
theorem record_unreadable {c : Cfg} {s0 : St} {files : List Path} {k : Nat}
    (hfresh : ∀ p, c.bdir <+: p → get s0 p = none) (hk : k < (copyPhase c s0 files).length + 3) {txt : List Sym}
    (hlock : get (crashAfter k (createSteps c s0 files) s0) c.lock = some (.reg txt)) : parse txt = none := by
  rw [crashAfter_createSteps] at hlock
  by_cases hj : k - (copyPhase c s0 files).length = 0
  · rw [hj, List.take_zero, exec, List.foldl_nil, copyPhase_lock, hfresh _ (bdir_prefix_lock c)] at hlock
    cases hlock
  · obtain ⟨n, hn, hw⟩ := get_writeSteps_torn (exec ((copyPhase c s0 files).take k) s0) c.lock (recordOf c files)
      (k - (copyPhase c s0 files).length) (by omega) (by omega)
    rw [lockPhase, hw] at hlock
    cases hlock
    have : 0 < (recordOf c files).length := by simp [recordOf, record]
    exact torn_record_rejected _ _ n (Nat.lt_of_le_of_lt hn (Nat.div_lt_self this (by decide)))

/-- **Crash consistency.** Interrupt `create_backup` after any number `k` of primitive steps.  If the manager
constructed afterwards lists the backup at all, every recorded file is present in the backup and byte-equal to
its source.  The premise can only be met once the record is complete: at `k = 0` the backup is not listed and for
`1 ≤ k < #copy steps + 3` the scan fails (`crash_atomicity`). -/
theorem crash_consistent (c : Cfg) (s0 : St) (files : List Path) (k : Nat)
    (hfresh : ∀ p, c.bdir <+: p → get s0 p = none)
    (hsrc : ∀ f ∈ files, ∃ b, get s0 (c.dpath f) = some (.reg b))
    (L : Listing) (hscan : scan (crashAfter k (createSteps c s0 files) s0) c.backups = .ok L)
    (ks : List Key) (hl : (c.name, ks) ∈ L) :
    ∀ key ∈ ks, ∃ b, get (crashAfter k (createSteps c s0 files) s0) (c.bpath (splitKey key)) = some (.reg b)
      ∧ get s0 (c.dpath (splitKey key)) = some (.reg b) := by
  obtain ⟨txt, hlock, hparse, hall⟩ := scanOne_ok (scanList_ok_mem hscan hl)
  -- the record parses, so the copy phase is complete
  have hk : (copyPhase c s0 files).length ≤ k := by
    apply Nat.le_of_not_lt
    intro hk
    rw [record_unreadable hfresh (by omega) hlock] at hparse
    cases hparse
  intro key hkey
  obtain ⟨_, b, hb⟩ := mem_walk (hall key hkey)
  refine ⟨b, hb, ?_⟩
  -- `c.backups ++ [c.name, rootName] ++ splitKey key` is `c.bpath (splitKey key)` unfolded
  change get _ (c.bpath (splitKey key)) = _ at hb
  rw [crashAfter_createSteps, List.take_of_length_le hk, lockPhase_broot c files _ _ (c.bpath _) ⟨_, rfl⟩, get_copyPhase,
    hfresh _ (bdir_prefix_bpath c _)] at hb
  split at hb
  · rename_i hf
    obtain ⟨b', hb'⟩ := hsrc _ hf
    rw [hb, hb', srcOf, hb']
  · cases hb

/-- The complete run copies every file of the list byte-for-byte. -/
theorem create_complete (c : Cfg) (s0 : St) (files : List Path) (f : Path) (hf : f ∈ files) :
    get (exec (createSteps c s0 files) s0) (c.bpath f) = some (.reg (srcOf c s0 f)) := by
  have h := lockPhase_broot c files (lockPhase c files).length (exec (copyPhase c s0 files) s0)
    (c.bpath f) ⟨f, rfl⟩
  rw [List.take_length] at h
  rw [createSteps, exec_append, h, get_copyPhase, if_pos hf]

/-! ## Restore -/

/-- Whatever `copyMap` does is a sequence of `set`s at data paths of picked files. -/
theorem copyMap_preserves {c : Cfg} {g : List Sym → List Sym} {pick : Path → Bool} {fs : List Path} {P : St → Prop}
    (hP : ∀ s f b, f ∈ fs → pick f = true → P s → P (set s (c.dpath f) (.reg b)))
    {s s1 : St} (h : copyMap c g pick fs s = .ok s1) (h0 : P s) : P s1 := by
  fun_induction copyMap c g pick fs s with
  | case1 =>
    cases h
    exact h0
  | case2 f r s hpk b _ ih =>
    exact ih (fun s f b hf => hP s f b (List.mem_cons_of_mem _ hf)) h (hP s f _ (List.mem_cons_self ..) hpk h0)
  | case3 => cases h
  | case4 f r s _ ih => exact ih (fun s f b hf => hP s f b (List.mem_cons_of_mem _ hf)) h h0

theorem copyMap_frame {c : Cfg} {g : List Sym → List Sym} {pick : Path → Bool} {fs : List Path} {s s1 : St}
    (h : copyMap c g pick fs s = .ok s1) (p : Path)
    (hp : ∀ f ∈ fs, pick f = true → p ≠ c.dpath f) : get s1 p = get s p := by
  refine copyMap_preserves (P := fun t => get t p = get s p) ?_ h rfl
  intro t f b hf hpk ht
  rw [get_set, if_neg (Ne.symm (hp f hf hpk)), ht]

theorem copyMap_untouched {c : Cfg} {g : List Sym → List Sym} {pick : Path → Bool} {fs : List Path} {s s1 : St}
    (hout : ∀ f ∈ fs, ¬ c.bdir <+: c.dpath f) (h : copyMap c g pick fs s = .ok s1) {p : Path} (hp : c.bdir <+: p) :
    get s1 p = get s p :=
  copyMap_frame h p (fun f hf _ he => hout f hf (he ▸ hp))

/-- Written out as `hcomplete` / `hback` in the theorems below. -/
def Backed (c : Cfg) (fs : List Path) (orig : Path → List Sym) (s : St) : Prop :=
  ∀ f ∈ fs, get s (c.bpath f) = some (.reg (orig f))

theorem copyMap_backed {c : Cfg} {g : List Sym → List Sym} {pick : Path → Bool} {fs : List Path} {orig : Path → List Sym}
    {s s1 : St} (hout : ∀ f ∈ fs, ¬ c.bdir <+: c.dpath f) (h : copyMap c g pick fs s = .ok s1)
    (hback : Backed c fs orig s) : Backed c fs orig s1 := fun f hf => by
  rw [copyMap_untouched hout h (bdir_prefix_bpath c f)]
  exact hback f hf

theorem copyMap_spec {c : Cfg} (g : List Sym → List Sym) (pick : Path → Bool) {fs : List Path} {orig : Path → List Sym}
    {s : St} (hout : ∀ f ∈ fs, ¬ c.bdir <+: c.dpath f) (hback : Backed c fs orig s) :
    ∃ s1, copyMap c g pick fs s = .ok s1 ∧
      ∀ f ∈ fs, pick f = true → get s1 (c.dpath f) = some (.reg (g (orig f))) := by
  induction fs generalizing s with
  | nil => exact ⟨s, rfl, by simp⟩
  | cons f r ih =>
    have hout' := fun a ha => hout a (List.mem_cons_of_mem _ ha)
    rw [copyMap]
    by_cases hpk : pick f = true
    · rw [if_pos hpk, hback f (List.mem_cons_self ..)]
      -- the write at the data path leaves the backup copies alone
      obtain ⟨s1, hs1, hspec⟩ := ih (s := set s (c.dpath f) (.reg (g (orig f)))) hout' (fun a ha => by
        have : c.dpath f ≠ c.bpath a := fun he => hout f (List.mem_cons_self ..) (he ▸ bdir_prefix_bpath c a)
        rw [get_set, if_neg this]
        exact hback a (List.mem_cons_of_mem _ ha))
      refine ⟨s1, hs1, fun a ha hpa => ?_⟩
      by_cases har : a ∈ r
      · exact hspec a har hpa
      · -- the head file, not written again
        obtain rfl : a = f := (List.mem_cons.mp ha).resolve_right har
        rw [copyMap_frame hs1 (c.dpath a) (fun f' hf' _ he =>
          har (List.append_cancel_left he ▸ hf')), get_set, if_pos rfl]
    · rw [if_neg hpk]
      obtain ⟨s1, hs1, hspec⟩ := ih hout' (fun a ha => hback a (List.mem_cons_of_mem _ ha))
      refine ⟨s1, hs1, fun a ha hpa => ?_⟩
      rcases List.mem_cons.mp ha with rfl | h
      · exact absurd hpa hpk
      · exact hspec a h hpa

/-- The values of `copyMap_spec` for a run known to have succeeded. -/
theorem copyMap_ok_val {c : Cfg} {g : List Sym → List Sym} {pick : Path → Bool} {fs : List Path} {orig : Path → List Sym}
    {s s1 : St} (hout : ∀ f ∈ fs, ¬ c.bdir <+: c.dpath f) (hback : Backed c fs orig s)
    (h : copyMap c g pick fs s = .ok s1) {f : Path} (hf : f ∈ fs) (hp : pick f = true) :
    get s1 (c.dpath f) = some (.reg (g (orig f))) := by
  obtain ⟨t, ht, spec⟩ := copyMap_spec g pick hout hback
  rw [h] at ht
  cases ht
  exact spec f hf hp

/-! ### Restore and remodel as steps: they never write below the backup directory -/

theorem copyOne_tgt (c : Cfg) (mk : Bool) (f : Path) (b : List Sym) :
    Writes ((if mk then mkdirsSteps c.dataRoot f.dropLast else []) ++ writeSteps (c.dpath f) b) (· <+: c.dpath f) := by
  refine .append ?_ ((writeSteps_tgt _ _).mono fun q hq => hq ▸ List.prefix_refl _)
  split
  · exact (mkdirsSteps_tgt _ _).mono fun q ⟨i, hi⟩ =>
      hi ▸ (List.prefix_append_right_inj _).mpr ((List.take_prefix _ _).trans (List.dropLast_prefix f))
  · exact nofun

theorem copySteps_tgt (c : Cfg) (g : List Sym → List Sym) (mk : Bool) (pick : Path → Bool) (fs : List Path) (s : St)
    (hout : ∀ f ∈ fs, ¬ c.bdir <+: c.dpath f) : Writes (copySteps c g mk pick fs s) (¬ c.bdir <+: ·) := by
  fun_induction copySteps c g mk pick fs s with
  | case1 | case3 => exact nofun
  | case2 f r s _ b _ ih =>
    exact ((copyOne_tgt c mk f _).mono fun q hq hp => hout f (List.mem_cons_self ..) (List.IsPrefix.trans hp hq)).append
      (ih fun a ha => hout a (List.mem_cons_of_mem _ ha))
  | case4 f r s _ ih => exact ih fun a ha => hout a (List.mem_cons_of_mem _ ha)

theorem copySteps_frame (c : Cfg) (g : List Sym → List Sym) (mk : Bool) (pick : Path → Bool) (fs : List Path)
    (s0 s : St) (hout : ∀ f ∈ fs, ¬ c.bdir <+: c.dpath f) (k : Nat) (p : Path) (hp : c.bdir <+: p) :
    get (crashAfter k (copySteps c g mk pick fs s0) s) p = get s p :=
  get_exec _ s p fun st hst hq => ((copySteps_tgt c g mk pick fs s0 hout).take k st hst).2 p hq hp

/-- **`restore_backup`, complete or interrupted at any step, never writes below the backup directory.** -/
theorem restore_never_touches_backup (c : Cfg) (fs : List Path) (tasks : List Name) (s : St)
    (hout : ∀ f ∈ fs, ¬ c.bdir <+: c.dpath f) (k : Nat) (p : Path) (hp : c.bdir <+: p) :
    get (crashAfter k (restoreSteps c fs tasks s) s) p = get s p :=
  copySteps_frame c id true _ fs s s hout k p hp

/-- **A remodel run, complete or interrupted at any step, never writes below the backup directory.** -/
theorem remodel_never_touches_backup (c : Cfg) (T : List Sym → List Sym) (fs : List Path) (tasks : List Name)
    (order : List Path) (s : St) (hout : ∀ f ∈ fs, ¬ c.bdir <+: c.dpath f)
    (hord : ∀ f ∈ order, ¬ c.bdir <+: c.dpath f) (k : Nat) (p : Path) (hp : c.bdir <+: p) :
    get (crashAfter k (remodelSteps c T fs tasks order s) s) p = get s p := by
  rw [crashAfter, remodelSteps, List.take_append, exec_append]
  exact (copySteps_frame c T false _ order s _ hord _ p hp).trans (copySteps_frame c id true _ fs s s hout k p hp)

/-! ### Histories: no operation writes below the backup directory -/

theorem restore_ok {c : Cfg} {fs : List Path} {tasks : List Name} {s s' : St} (h : restore c fs tasks s = .ok s') :
    copyMap c id (picked tasks) fs s = .ok s' := by
  rw [restore] at h
  split at h
  · cases h
  · exact h

theorem remodel_ok {c : Cfg} {T : List Sym → List Sym} {fs : List Path} {tasks : List Name} {s s' : St}
    (h : remodel c T fs tasks s = .ok s') :
    ∃ s1, copyMap c id (picked tasks) fs s = .ok s1 ∧ copyMap c T (rewritten c tasks s1) fs s1 = .ok s' := by
  revert h
  fun_cases remodel c T fs tasks s
  case case4 s1 h1 _ => exact fun h => ⟨s1, h1, h⟩
  all_goals exact nofun

theorem applyOp_untouched {c : Cfg} {T : List Sym → List Sym} {fs : List Path}
    (hout : ∀ f ∈ fs, ¬ c.bdir <+: c.dpath f) {s s' : St} {o : Op} (hs : o.safe c)
    (h : applyOp c T fs s o = .ok s') {p : Path} (hp : c.bdir <+: p) : get s' p = get s p := by
  cases o with
  | modify q b =>
    cases h
    have : q ≠ p := fun e => hs (e ▸ hp)
    rw [get_set, if_neg this]
  | delete q =>
    cases h
    rw [get_delTree, if_neg]
    intro hq
    rcases List.prefix_or_prefix_of_prefix hq hp with h1 | h1
    · exact hs.2 h1
    · exact hs.1 h1
  | restore tasks => exact copyMap_untouched hout (restore_ok h) hp
  | remodel tasks =>
    obtain ⟨s1, h1, hw⟩ := remodel_ok h
    rw [copyMap_untouched hout hw hp, copyMap_untouched hout h1 hp]
  | restoreCrash tasks k =>
    cases h
    exact restore_never_touches_backup c fs tasks s hout k p hp
  | remodelCrash tasks order k =>
    cases h
    exact remodel_never_touches_backup c T fs tasks order s hout hs k p hp

theorem runOps_untouched {c : Cfg} {T : List Sym → List Sym} {fs : List Path}
    (hout : ∀ f ∈ fs, ¬ c.bdir <+: c.dpath f) {ops : List Op} {s s' : St}
    (hs : ∀ o ∈ ops, o.safe c) (h : runOps c T fs ops s = .ok s') {p : Path} (hp : c.bdir <+: p) :
    get s' p = get s p := by
  fun_induction runOps c T fs ops s with
  | case1 =>
    cases h
    rfl
  | case2 => cases h
  | case3 o r s s1 h1 ih =>
    rw [ih (fun o' ho' => hs o' (List.mem_cons_of_mem _ ho')) h,
      applyOp_untouched hout (hs o (List.mem_cons_self ..)) h1 hp]

/-- **Restore is the identity on backed-up content.** The backup holds `orig f` for every recorded
file `f` (e.g. right after `create_backup`).  After *any* history of modify / delete / restore[tasks] / remodel
operations, complete or interrupted (`Op`), that does not write below the backup directory, `restore_backup`
succeeds, every recorded data file is byte-identical to `orig f`, and nothing else changed. -/
theorem restore_identity (c : Cfg) (T : List Sym → List Sym) (fs : List Path) (orig : Path → List Sym)
    (ops : List Op) (s s' : St)
    (hne : fs ≠ [])
    (hout : ∀ f ∈ fs, ¬ c.bdir <+: c.dpath f)
    (hcomplete : ∀ f ∈ fs, get s (c.bpath f) = some (.reg (orig f)))
    (hsafe : ∀ o ∈ ops, o.safe c)
    (hrun : runOps c T fs ops s = .ok s') :
    ∃ s'', restore c fs [] s' = .ok s'' ∧
      (∀ f ∈ fs, get s'' (c.dpath f) = some (.reg (orig f))) ∧
      (∀ p, (∀ f ∈ fs, p ≠ c.dpath f) → get s'' p = get s' p) := by
  have hb' : ∀ f ∈ fs, get s' (c.bpath f) = some (.reg (orig f)) := fun f hf => by
    rw [runOps_untouched hout hsafe hrun (bdir_prefix_bpath c f)]
    exact hcomplete f hf
  obtain ⟨s'', hs'', hspec⟩ := copyMap_spec id (picked []) hout hb'
  refine ⟨s'', ?_, fun f hf => hspec f hf rfl,
    fun p hp => copyMap_frame hs'' p (fun f hf _ => hp f hf)⟩
  rw [restore, if_neg, hs'']
  rwa [List.isEmpty_iff]

/-- Backup, any safe history, restore: every file of the list is back to its bytes at backup time. -/
theorem backup_history_restore (c : Cfg) (T : List Sym → List Sym) (files : List Path) (ops : List Op)
    (s0 s' : St) (hne : files ≠ [])
    (hsrc : ∀ f ∈ files, ∃ b, get s0 (c.dpath f) = some (.reg b))
    (hout : ∀ f ∈ files, ¬ c.bdir <+: c.dpath f)
    (hsafe : ∀ o ∈ ops, o.safe c)
    (hrun : runOps c T files ops (exec (createSteps c s0 files) s0) = .ok s') :
    ∃ s'', restore c files [] s' = .ok s'' ∧ ∀ f ∈ files, get s'' (c.dpath f) = get s0 (c.dpath f) := by
  obtain ⟨s'', h1, h2, _⟩ := restore_identity c T files (srcOf c s0) ops _ s' hne hout
    (fun f hf => create_complete c s0 files f hf) hsafe hrun
  refine ⟨s'', h1, fun f hf => ?_⟩
  obtain ⟨b, hb⟩ := hsrc f hf
  rw [h2 f hf, srcOf, hb]

/-- **Task-filtered restore touches only the selected files.** -/
theorem restore_tasks_only (c : Cfg) (fs : List Path) (tasks : List Name) (s s' : St)
    (h : restore c fs tasks s = .ok s') (p : Path)
    (hp : ∀ f ∈ fs, picked tasks f = true → p ≠ c.dpath f) : get s' p = get s p :=
  copyMap_frame (restore_ok h) p hp

/-- `get_task` looks at the whole list, provided NO listed task name is empty: an empty name matches every `task_`
first and is falsy (`getTask ['', 'go'] "task_go" = false`). -/
theorem getTask_of_mem (tasks : List Name) (base : Name) (hne : ∀ t ∈ tasks, t ≠ [])
    (h : ∃ t ∈ tasks, isInfix (['t', 'a', 's', 'k', '_'] ++ t) base = true) : getTask tasks base = true := by
  unfold getTask
  split
  · rename_i t ht
    cases t with
    | nil => exact absurd rfl (hne _ (List.mem_of_find?_eq_some ht))
    | cons _ _ => rfl
  · rename_i hnone
    obtain ⟨t, ht, hi⟩ := h
    exact absurd hi (List.find?_eq_none.mp hnone t ht)

/-- **A task-restricted restore restores every requested task.** With no listed task name
empty, after `restore_backup(name, tasks)` every recorded file whose base name contains `task_<t>` for any `t` of
the list is byte-identical to its backup copy (not only those of the first task). -/
theorem restore_tasks_complete (c : Cfg) (fs : List Path) (tasks : List Name) (orig : Path → List Sym) (s s' : St)
    (hout : ∀ f ∈ fs, ¬ c.bdir <+: c.dpath f)
    (hback : ∀ f ∈ fs, get s (c.bpath f) = some (.reg (orig f)))
    (hne : ∀ t ∈ tasks, t ≠ [])
    (h : restore c fs tasks s = .ok s') :
    ∀ f ∈ fs, (∃ t ∈ tasks, isInfix (['t', 'a', 's', 'k', '_'] ++ t) (f.getLastD []) = true) →
      get s' (c.dpath f) = some (.reg (orig f)) := by
  intro f hf hsel
  refine copyMap_ok_val hout hback (restore_ok h) hf ?_
  rw [picked, getTask_of_mem tasks _ hne hsel, Bool.or_true]

/-- **An interrupted restore or remodel is just another thing done to the data files.**  Stop a
`restore_backup(tasks)` or a remodel run after any number `k` of its primitive steps: a subsequent complete
restore still succeeds and returns every recorded file to its backup bytes. -/
theorem restore_after_crashed_restore (c : Cfg) (T : List Sym → List Sym) (fs : List Path) (orig : Path → List Sym)
    (tasks : List Name) (order : List Path) (s : St) (k : Nat)
    (hne : fs ≠ [])
    (hout : ∀ f ∈ fs, ¬ c.bdir <+: c.dpath f)
    (hord : ∀ f ∈ order, ¬ c.bdir <+: c.dpath f)
    (hcomplete : ∀ f ∈ fs, get s (c.bpath f) = some (.reg (orig f))) :
    (∃ s'', restore c fs [] (crashAfter k (restoreSteps c fs tasks s) s) = .ok s'' ∧
        ∀ f ∈ fs, get s'' (c.dpath f) = some (.reg (orig f))) ∧
    (∃ s'', restore c fs [] (crashAfter k (remodelSteps c T fs tasks order s) s) = .ok s'' ∧
        ∀ f ∈ fs, get s'' (c.dpath f) = some (.reg (orig f))) := by
  constructor
  · exact (restore_identity c T fs orig [.restoreCrash tasks k] s (crashAfter k (restoreSteps c fs tasks s) s) hne hout
      hcomplete (fun o ho => List.mem_singleton.mp ho ▸ trivial) rfl).imp fun _ h => ⟨h.1, h.2.1⟩
  · exact (restore_identity c T fs orig [.remodelCrash tasks order k] s (crashAfter k (remodelSteps c T fs tasks order s) s)
      hne hout hcomplete (fun o ho => List.mem_singleton.mp ho ▸ hord) rfl).imp fun _ h => ⟨h.1, h.2.1⟩

/-! ## Remodel twice = remodel once -/

/-! `remodel` does not call `remodelCore`: that is the two `copyMap` phases with arbitrary pick functions, for which
idempotence is proved first. -/

theorem remodelCore_eq (c : Cfg) (T : List Sym → List Sym) (pick1 pick2 : Path → Bool) (fs : List Path) (s s1 : St)
    (h : copyMap c id pick1 fs s = .ok s1) :
    remodelCore c T pick1 pick2 fs s = copyMap c T pick2 fs s1 := by
  rw [remodelCore, h]

theorem remodelCore_idempotent (c : Cfg) (T : List Sym → List Sym) (pick1 pick2 : Path → Bool) (fs : List Path)
    (orig : Path → List Sym) (s s' : St)
    (hout : ∀ f ∈ fs, ¬ c.bdir <+: c.dpath f) (hback : Backed c fs orig s)
    (h : remodelCore c T pick1 pick2 fs s = .ok s') :
    ∃ s'', remodelCore c T pick1 pick2 fs s' = .ok s'' ∧ ∀ p, get s'' p = get s' p := by
  -- the run that produced `s'`: restore to `s1`, rewrite to `s'`
  rw [remodelCore] at h
  split at h
  · cases h
  rename_i s1 h1
  have hb1 := copyMap_backed hout h1 hback
  have hb' := copyMap_backed hout h hb1
  -- the run from `s'`: `u1`, then `u2`
  obtain ⟨u1, hu1, -⟩ := copyMap_spec id pick1 hout hb'
  have hbu := copyMap_backed hout hu1 hb'
  obtain ⟨u2, hu2, -⟩ := copyMap_spec T pick2 hout hbu
  refine ⟨u2, by rw [remodelCore_eq c T pick1 pick2 fs s' u1 hu1, hu2], fun p => ?_⟩
  by_cases hsel : ∃ f ∈ fs, pick2 f = true ∧ p = c.dpath f
  · -- rewritten in both runs, from the same backup copy
    obtain ⟨f, hf, hsf, rfl⟩ := hsel
    rw [copyMap_ok_val hout hbu hu2 hf hsf, copyMap_ok_val hout hb1 h hf hsf]
  · have hns : ∀ f ∈ fs, pick2 f = true → p ≠ c.dpath f := fun f hf hsf he => hsel ⟨f, hf, hsf, he⟩
    rw [copyMap_frame hu2 p hns, copyMap_frame h p hns]
    by_cases hany : ∃ f ∈ fs, pick1 f = true ∧ p = c.dpath f
    · -- restored in both runs
      obtain ⟨f, hf, hp1, rfl⟩ := hany
      rw [copyMap_ok_val hout hb' hu1 hf hp1, copyMap_ok_val hout hback h1 hf hp1]
    · have hna : ∀ f ∈ fs, pick1 f = true → p ≠ c.dpath f := fun f hf h1' he => hany ⟨f, hf, h1', he⟩
      rw [copyMap_frame hu1 p hna, copyMap_frame h p hns]

theorem copyMap_pick_congr (c : Cfg) (g : List Sym → List Sym) (pick pick' : Path → Bool) (fs : List Path) (s : St)
    (h : ∀ f ∈ fs, pick f = pick' f) : copyMap c g pick fs s = copyMap c g pick' fs s := by
  induction fs generalizing s with
  | nil => rfl
  | cons f r ih =>
    rw [copyMap, copyMap, h f (List.mem_cons_self ..)]
    simp only [fun s => ih s fun a ha => h a (List.mem_cons_of_mem _ ha)]

theorem copyMap_isReg {c : Cfg} {g : List Sym → List Sym} {pick : Path → Bool} {fs : List Path} {orig : Path → List Sym}
    {s s1 : St} (hout : ∀ f ∈ fs, ¬ c.bdir <+: c.dpath f) (hback : Backed c fs orig s)
    (h : copyMap c g pick fs s = .ok s1) {f : Path} (hf : f ∈ fs) :
    isReg s1 (c.dpath f) = (pick f || isReg s (c.dpath f)) := by
  by_cases hp : pick f = true
  · rw [isReg, copyMap_ok_val hout hback h hf hp, hp, Bool.true_or]
  · have := copyMap_frame h (c.dpath f) (fun f' _ hp' he =>
      hp (List.append_cancel_left he ▸ hp'))
    rw [isReg, this, Bool.not_eq_true _ |>.mp hp, Bool.false_or, isReg]

/-- **Running the remodeler twice equals running it once** (also with `-t tasks`): each run restores the
picked files and then rewrites every selected existing file of the requested tasks from its backup
copy, so the second run's result has the same files as the first. -/
theorem remodel_idempotent (c : Cfg) (T : List Sym → List Sym) (fs : List Path) (tasks : List Name) (s s' s'' : St)
    (hout : ∀ f ∈ fs, ¬ c.bdir <+: c.dpath f)
    (hback : ∀ f ∈ fs, ∃ b, get s (c.bpath f) = some (.reg b))
    (h1 : remodel c T fs tasks s = .ok s') (h2 : remodel c T fs tasks s' = .ok s'') : ∀ p, get s'' p = get s' p := by
  obtain ⟨s1, r1, w1⟩ := remodel_ok h1
  obtain ⟨s1', r2, w2⟩ := remodel_ok h2
  -- name the bytes the backup holds
  have hb : Backed c fs (fun f => match get s (c.bpath f) with | some (.reg b) => b | _ => []) s := fun f hf => by
    obtain ⟨b, hb⟩ := hback f hf
    simp only [hb]
  have hb1 := copyMap_backed hout r1 hb
  have hb' := copyMap_backed hout w1 hb1
  -- both runs rewrite the same files: what the first run rewrote exists, and was there after its restore
  have hsame : ∀ f ∈ fs, rewritten c tasks s1' f = rewritten c tasks s1 f := by
    intro f hf
    rw [rewritten, rewritten, copyMap_isReg hout hb' r2 hf,
      copyMap_isReg hout hb1 w1 hf, rewritten, copyMap_isReg hout hb r1 hf]
    cases selKey f && taskOk tasks f <;> cases picked tasks f <;> cases isReg s (c.dpath f) <;> rfl
  rw [copyMap_pick_congr c T _ _ fs s1' hsame] at w2
  obtain ⟨u, hu, heq⟩ := remodelCore_idempotent c T (picked tasks) (rewritten c tasks s1) fs _ s s' hout hb
    (by rw [remodelCore_eq c T _ _ fs s s1 r1, w1])
  rw [remodelCore_eq c T _ _ fs s' s1' r2, w2] at hu
  cases hu
  exact heq

/-- **Remodel starts from the backed-up originals**: whatever the data files held, after a run every
rewritten file (selected, of a requested task, and present after the run's restore) is `T` of its
backup copy. -/
theorem remodel_from_backup (c : Cfg) (T : List Sym → List Sym) (fs : List Path) (tasks : List Name)
    (orig : Path → List Sym) (s s' : St)
    (hout : ∀ f ∈ fs, ¬ c.bdir <+: c.dpath f)
    (hback : ∀ f ∈ fs, get s (c.bpath f) = some (.reg (orig f)))
    (h : remodel c T fs tasks s = .ok s') :
    ∀ f ∈ fs, (selKey f && taskOk tasks f) = true → (picked tasks f || isReg s (c.dpath f)) = true →
      get s' (c.dpath f) = some (.reg (T (orig f))) := by
  intro f hf hsel hex
  obtain ⟨s1, h1, hw⟩ := remodel_ok h
  refine copyMap_ok_val hout (copyMap_backed hout h1 hback) hw hf ?_
  rw [rewritten, copyMap_isReg hout hback h1 hf, hsel, hex]
  rfl

theorem any_name (m : Listing) (n : Name) : m.any (fun e => e.1 == n) = true ↔ n ∈ m.map (·.1) := by
  simp only [List.any_eq_true, beq_iff_eq, List.mem_map]

/-- `create_backup` with a listed name returns `False` and performs no file-system step. -/
theorem no_overwrite (c : Cfg) (listing : Listing) (s : St) (files : List Path)
    (h : c.name ∈ listing.map (·.1)) :
    (create c listing s files).1 = false ∧ exec (create c listing s files).2 s = s := by
  rw [create, if_pos ((any_name _ _).mpr h)]
  exact ⟨rfl, rfl⟩

/-! ## Several named backups side by side -/

/-- The directory of backup `a` looks the same in `s` as in `s0`: every path at or below it, its listing, and
the files below its `backup_root`.  This is all the scan of `a` reads. -/
structure Same (B : Path) (a : Name) (s0 s : St) : Prop where
  frame : ∀ p, (B ++ [a]) <+: p → get s p = get s0 p
  ch : children s (B ++ [a]) = children s0 (B ++ [a])
  wk : walk s (B ++ [a, rootName]) = walk s0 (B ++ [a, rootName])

theorem Same.scanOne_eq {B : Path} {a : Name} {s0 s : St} (h : Same B a s0 s) : scanOne s B a = scanOne s0 B a := by
  unfold scanOne isDir
  dsimp only
  rw [h.frame (B ++ [a]) (List.prefix_refl _), h.frame (B ++ [a, lockName]) ⟨[lockName], by simp⟩,
    h.frame (B ++ [a, rootName]) ⟨[rootName], by simp⟩, h.ch, h.wk]

theorem Same.set {B : Path} {a : Name} {s0 s : St} (h : Same B a s0 s) (q : Path) (f : File Sym)
    (hq : ¬ (B ++ [a]) <+: q) : Same B a s0 (set s q f) := by
  refine ⟨fun p hp => ?_, ?_, ?_⟩
  · have : q ≠ p := fun e => hq (e ▸ hp)
    rw [get_set, if_neg this, h.frame p hp]
  · rw [children_set hq, h.ch]
  · rw [walk_set (fun hr => hq (List.IsPrefix.trans ⟨[rootName], by simp⟩ hr)), h.wk]

theorem Same.exec {B : Path} {a : Name} {s0 s : St} (h : Same B a s0 s) (steps : List (Step Sym))
    (hst : Writes steps (¬ (B ++ [a]) <+: ·)) : Same B a s0 (exec steps s) :=
  exec_induct (fun _ q f hq ht => ht.set q f hq) steps s hst h

theorem other_dir_not_prefix (c : Cfg) (a : Name) (hab : a ≠ c.name) (q : Path) (hq : c.bdir <+: q) :
    ¬ (c.backups ++ [a]) <+: q := by
  intro h
  have h2 := List.prefix_of_prefix_length_le h hq (by simp [Cfg.bdir])
  rw [Cfg.bdir, List.prefix_append_right_inj, List.cons_prefix_cons] at h2
  exact hab h2.1

theorem create_same (c : Cfg) (a : Name) (hab : a ≠ c.name) (s0 : St) (files : List Path) (k : Nat) :
    Same c.backups a s0 (crashAfter k (createSteps c s0 files) s0) :=
  Same.exec ⟨fun _ _ => rfl, rfl, rfl⟩ _ (((createSteps_tgt c s0 files).take k).mono (other_dir_not_prefix c a hab))

/-- **Backups are independent.** Creating backup `c.name` — completely, or interrupted after any `k` steps —
changes no file of another backup `a`, and the consistency scan's verdict on `a` is unchanged. -/
theorem backups_independent (c : Cfg) (a : Name) (hab : a ≠ c.name) (s0 : St) (files : List Path) (k : Nat) :
    (∀ p, (c.backups ++ [a]) <+: p → get (crashAfter k (createSteps c s0 files) s0) p = get s0 p) ∧
    scanOne (crashAfter k (createSteps c s0 files) s0) c.backups a = scanOne s0 c.backups a :=
  ⟨(create_same c a hab s0 files k).frame, (create_same c a hab s0 files k).scanOne_eq⟩

/-- If managers can be constructed before and after creating `c.name`, backup `a` is listed with the same
record in both listings. -/
theorem other_backup_still_listed (c : Cfg) (a : Name) (hab : a ≠ c.name) (s0 : St) (files : List Path) (k : Nat)
    (L L' : Listing) (ks : List Key)
    (h0 : scan s0 c.backups = .ok L) (hl : (a, ks) ∈ L)
    (h1 : scan (crashAfter k (createSteps c s0 files) s0) c.backups = .ok L') : (a, ks) ∈ L' := by
  have hin : a ∈ children s0 c.backups := (scanList_names h0 a).mpr ⟨ks, hl⟩
  have hin' : a ∈ children (crashAfter k (createSteps c s0 files) s0) c.backups :=
    mem_children_exec ((createSteps_tgt c s0 files).take k) hin
  obtain ⟨ks', hks'⟩ := (scanList_names h1 a).mp hin'
  have e1 := scanList_ok_mem h1 hks'
  rw [(create_same c a hab s0 files k).scanOne_eq, scanList_ok_mem h0 hl] at e1
  cases e1
  exact hks'

/-- **What an interrupted creation leaves behind.**  From the first step until the record is
complete the scan of the whole backups directory FAILS: no manager can be constructed for this data root, so no
backup at all is listed - neither the half-made one nor any earlier, intact one. -/
theorem incomplete_backup_blocks_manager (c : Cfg) (s0 : St) (files : List Path) (k : Nat)
    (hfresh : ∀ p, c.bdir <+: p → get s0 p = none)
    (hk1 : 1 ≤ k) (hk2 : k < (copyPhase c s0 files).length + 3) :
    ∀ L, scan (crashAfter k (createSteps c s0 files) s0) c.backups ≠ .ok L := by
  -- the backup's directory entry exists from step 1 on
  have hsteps : createSteps c s0 files = .mkdir c.bdir :: (createSteps c s0 files).drop 1 := rfl
  have hin : c.name ∈ children (crashAfter k (createSteps c s0 files) s0) c.backups := by
    obtain ⟨k', rfl⟩ : ∃ k', k = k' + 1 := ⟨k - 1, by omega⟩
    rw [crashAfter, hsteps, List.take_succ_cons, exec_cons]
    apply mem_children_exec
    · exact fun st hst => createSteps_tgt c s0 files st (List.mem_of_mem_drop (List.mem_of_mem_take hst))
    · apply mem_children_iff.mpr
      change get (step s0 (.mkdir c.bdir)) c.bdir ≠ none
      rw [step, hfresh _ (List.prefix_refl _), get_set, if_pos rfl]
      exact Option.some_ne_none _
  -- it is scanned, and its record is absent or does not parse
  intro L hL
  obtain ⟨ks, hks⟩ := (scanList_names hL c.name).mp hin
  obtain ⟨txt, hlock, hparse, _⟩ := scanOne_ok (scanList_ok_mem hL hks)
  rw [record_unreadable hfresh hk2 hlock] at hparse
  cases hparse

/-! ## Sessions: creations, re-opened managers, restores and data modifications -/

theorem lookup_append {m : Listing} (x : Listing) {B : Name} {ks : List Key} (h : lookup m B = some ks) :
    lookup (m ++ x) B = some ks := by
  obtain ⟨e, hf, he⟩ := Option.map_eq_some_iff.mp h
  simp [lookup, List.find?_append, hf, he]

theorem lookup_mem {L : Listing} {B : Name} {x : List Key} (h : lookup L B = some x) : (B, x) ∈ L := by
  obtain ⟨⟨a, b⟩, hf, rfl⟩ := Option.map_eq_some_iff.mp h
  obtain rfl : a = B := beq_iff_eq.mp (List.find?_some (p := fun e : Name × List Key => e.1 == B) hf)
  exact List.mem_of_find?_eq_some hf

theorem lookup_of_mem {L : Listing} {B : Name} {x : List Key} (h : (B, x) ∈ L) : ∃ y, lookup L B = some y := by
  cases hf : L.find? (fun e => e.1 == B) with
  | none => exact absurd (beq_self_eq_true B) (List.find?_eq_none.mp hf _ h)
  | some e' => exact ⟨e'.2, by rw [lookup, hf]; rfl⟩

theorem name_of_lookup {L : Listing} {B : Name} {x : List Key} (h : lookup L B = some x) : B ∈ L.map (·.1) :=
  List.mem_map.mpr ⟨(B, x), lookup_mem h, rfl⟩

/-- What a session keeps invariant about backup `B`, relative to the state `s0`. -/
structure SInv (c : Cfg) (B : Name) (s0 s : St) : Prop where
  dir : B ∈ children s c.backups
  same : Same c.backups B s0 s

theorem SInv.set {c : Cfg} {B : Name} {s0 s : St} (h : SInv c B s0 s) (q : Path) (f : File Sym)
    (hq : ¬ c.backups <+: q) : SInv c B s0 (set s q f) :=
  ⟨mem_children_set q _ h.dir, h.same.set q f (fun hp => hq ((List.prefix_append _ _).trans hp))⟩

theorem bstep_create (c : Cfg) (m : Listing) (s : St) (n : Name) (files : List Path) :
    bstep c (m, s) (.create n files) =
      if n ∈ m.map (·.1) then (m, s)
      else (m ++ [(n, (files.map joinKey).eraseDups)], exec (createSteps { c with name := n } s files) s) := by
  simp only [bstep, create, any_name]
  split <;> rfl

theorem SInv.exec {c : Cfg} {B : Name} {s0 s : St} (h : SInv c B s0 s) (steps : List (Step Sym))
    (hst : Writes steps (¬ (c.backups ++ [B]) <+: ·)) : SInv c B s0 (exec steps s) :=
  ⟨mem_children_exec hst h.dir, h.same.exec steps hst⟩

theorem bstep_sinv {c : Cfg} {B : Name} {s0 : St} {ms : Listing × St} {o : BOp}
    (hB : B ∈ ms.1.map (·.1)) (hs : SInv c B s0 ms.2) (hok : o.ok c ms) :
    B ∈ (bstep c ms o).1.map (·.1) ∧ SInv c B s0 (bstep c ms o).2 := by
  obtain ⟨m, s⟩ := ms
  cases o with
  | create n files =>
    rw [bstep_create]
    split
    · exact ⟨hB, hs⟩
    · -- a name that is not listed is not `B`; its steps write below its own directory
      rename_i hn
      have hne : B ≠ n := fun e => hn (e ▸ hB)
      dsimp only  -- the pair projections first: unifying through them unfolds `exec`
      refine ⟨by rw [List.map_append]; exact List.mem_append_left _ hB, ?_⟩
      exact hs.exec _ ((createSteps_tgt { c with name := n } s files).mono (other_dir_not_prefix { c with name := n } B hne))
  | reopen =>
    rw [bstep]
    split
    · rename_i l hl
      obtain ⟨ks, hks⟩ := (scanList_names hl B).mp hs.dir
      exact ⟨List.mem_map.mpr ⟨(B, ks), hks, rfl⟩, hs⟩
    · exact ⟨hB, hs⟩
  | restore n tasks =>
    rw [bstep]
    split
    · rename_i ks hks
      split
      · rename_i s' hr
        refine ⟨hB, copyMap_preserves (P := SInv c B s0) ?_ (restore_ok hr) hs⟩
        intro t f b hf _ ht
        obtain ⟨k, hk, rfl⟩ := List.mem_map.mp hf
        exact ht.set _ _ (hok ks hks k hk)
      · exact ⟨hB, hs⟩
    · exact ⟨hB, hs⟩
  | modify p b => exact ⟨hB, hs.set p _ hok⟩

theorem bstep_rec {c : Cfg} {B : Name} {ks : List Key} {s0 : St} {ms : Listing × St} (o : BOp)
    (hdisk : scanOne s0 c.backups B = .ok ks)
    (hB : lookup ms.1 B = some ks) (hs : SInv c B s0 ms.2) : lookup (bstep c ms o).1 B = some ks := by
  obtain ⟨m, s⟩ := ms
  cases o with
  | create n files =>
    rw [bstep_create]
    split
    · exact hB
    · exact lookup_append _ hB
  | reopen =>
    rw [bstep]
    split
    · rename_i l hl
      obtain ⟨x, hx⟩ := (scanList_names hl B).mp hs.dir
      obtain ⟨y, hy⟩ := lookup_of_mem hx
      have := scanList_ok_mem hl (lookup_mem hy)
      rw [hs.same.scanOne_eq, hdisk] at this
      cases this
      exact hy
    · exact hB
  | restore n tasks =>
    rw [bstep]
    split
    · split <;> exact hB
    · exact hB
  | modify p b => exact hB

theorem brun_induction (c : Cfg) (P : Listing × St → Prop)
    (hstep : ∀ ms o, P ms → o.ok c ms → P (bstep c ms o)) :
    ∀ (h : List BOp) (ms : Listing × St), P ms → BOk c h ms → P (brun c h ms)
  | [], _, h0, _ => h0
  | o :: r, ms, h0, hok => brun_induction c P hstep r _ (hstep ms o h0 hok.1) hok.2

/-- **No session overwrites or alters an existing backup.**  `A` is a name in the manager's dictionary (its
record may be EMPTY) whose directory exists.  After any session of `create_backup` calls (any names incl. `A`, any
selections incl. `[]`), re-opened managers, restores of ANY backup with any task list, and data file
modifications, `A` is still in the dictionary, no path below `A`'s directory has changed, and the scan's verdict
on `A` is the same. -/
theorem create_never_overwrites (c : Cfg) (A : Name) (h : List BOp) (m : Listing) (s : St)
    (hA : A ∈ m.map (·.1)) (hdir : A ∈ children s c.backups) (hok : BOk c h (m, s)) :
    A ∈ (brun c h (m, s)).1.map (·.1) ∧ A ∈ children (brun c h (m, s)).2 c.backups ∧
      (∀ p, (c.backups ++ [A]) <+: p → get (brun c h (m, s)).2 p = get s p) ∧
      scanOne (brun c h (m, s)).2 c.backups A = scanOne s c.backups A := by
  obtain ⟨h1, h2⟩ := brun_induction c (fun ms => A ∈ ms.1.map (·.1) ∧ SInv c A s ms.2)
    (fun ms o hP ho => bstep_sinv hP.1 hP.2 ho) h (m, s) ⟨hA, hdir, fun _ _ => rfl, rfl, rfl⟩ hok
  exact ⟨h1, h2.dir, h2.same.frame, h2.same.scanOne_eq⟩

/-- After any session as in `create_never_overwrites`, `create_backup(files, A)` returns `False` and does nothing. -/
theorem create_existing_returns_false (c : Cfg) (A : Name) (h : List BOp) (m : Listing) (s : St) (files : List Path)
    (hA : A ∈ m.map (·.1)) (hdir : A ∈ children s c.backups) (hok : BOk c h (m, s)) :
    bstep c (brun c h (m, s)) (.create A files) = brun c h (m, s) := by
  rw [bstep_create, if_pos (create_never_overwrites c A h m s hA hdir hok).1]

/-- **Round trip over sessions.**  Backup `B` is in the dictionary with record `ks`, the disk
agrees (`scanOne`), and its copies hold `orig f`.  After ANY session the dictionary still holds `ks` for `B`, and
`restore_backup(B)` succeeds, makes every file recorded in `B` byte-identical to `orig f`, and changes nothing
else. -/
theorem session_restore_identity (c : Cfg) (B : Name) (ks : List Key) (orig : Path → List Sym) (h : List BOp)
    (m : Listing) (s : St)
    (hB : lookup m B = some ks) (hdisk : scanOne s c.backups B = .ok ks) (hdir : B ∈ children s c.backups)
    (hne : ks ≠ [])
    (hout : ∀ k ∈ ks, ¬ c.backups <+: c.dataRoot ++ splitKey k)
    (hcomplete : ∀ f ∈ ks.map splitKey, get s ({ c with name := B }.bpath f) = some (.reg (orig f)))
    (hok : BOk c h (m, s)) :
    lookup (brun c h (m, s)).1 B = some ks ∧
    ∃ s'', restore { c with name := B } (ks.map splitKey) [] (brun c h (m, s)).2 = .ok s'' ∧
      (∀ f ∈ ks.map splitKey, get s'' (c.dataRoot ++ f) = some (.reg (orig f))) ∧
      (∀ p, (∀ f ∈ ks.map splitKey, p ≠ c.dataRoot ++ f) → get s'' p = get (brun c h (m, s)).2 p) := by
  obtain ⟨r1, r2⟩ := brun_induction c (fun ms => lookup ms.1 B = some ks ∧ SInv c B s ms.2)
    (fun ms o hP ho => ⟨bstep_rec o hdisk hP.1 hP.2,
      (bstep_sinv (name_of_lookup hP.1) hP.2 ho).2⟩)
    h (m, s) ⟨hB, hdir, fun _ _ => rfl, rfl, rfl⟩ hok
  refine ⟨r1, ?_⟩
  -- the session is, for `B`, a history that left the backup alone: `restore_identity` with no operations
  refine restore_identity { c with name := B } id (ks.map splitKey) orig [] _ _ ?_ ?_ ?_ (fun _ ho => by cases ho) rfl
  · rwa [Ne, List.map_eq_nil_iff]
  · intro f hf hp
    obtain ⟨k, hk, rfl⟩ := List.mem_map.mp hf
    exact hout k hk ((List.prefix_append _ _).trans hp)
  · intro f hf
    rw [r2.same.frame _ (bdir_prefix_bpath { c with name := B } f)]
    exact hcomplete f hf

/-! ## "Never half-valid", stated per crash point -/

/-- **Crash atomicity of `create_backup`.**  Stop after any `k` primitive steps and open a manager:
* `k = 0`: the backup is absent from every listing;
* from the first step until the record is complete: NO manager can be opened (the scan raises) - in this
  code a directory without a valid record is not "ignored", it is reported and blocks the data root;
* at every `k`: if a manager can be opened and lists the backup, every recorded file is present in the
  backup and byte-equal to its source. -/
theorem crash_atomicity (c : Cfg) (s0 : St) (files : List Path) (k : Nat)
    (hfresh : ∀ p, c.bdir <+: p → get s0 p = none)
    (hsrc : ∀ f ∈ files, ∃ b, get s0 (c.dpath f) = some (.reg b)) :
    (k = 0 → ∀ L, scan (crashAfter k (createSteps c s0 files) s0) c.backups = .ok L → c.name ∉ L.map (·.1)) ∧
    (1 ≤ k → k < (copyPhase c s0 files).length + 3 →
      ∀ L, scan (crashAfter k (createSteps c s0 files) s0) c.backups ≠ .ok L) ∧
    (∀ L, scan (crashAfter k (createSteps c s0 files) s0) c.backups = .ok L → ∀ ks, (c.name, ks) ∈ L →
      ∀ key ∈ ks, ∃ b, get (crashAfter k (createSteps c s0 files) s0) (c.bpath (splitKey key)) = some (.reg b) ∧
        get s0 (c.dpath (splitKey key)) = some (.reg b)) := by
  refine ⟨?_, incomplete_backup_blocks_manager c s0 files k hfresh, crash_consistent c s0 files k hfresh hsrc⟩
  rintro rfl L hL hin
  -- a listed name is an entry of the backups directory, which the fresh state does not have
  rw [(scanList_ok hL).1] at hin
  exact mem_children_iff.mp hin (hfresh _ (List.prefix_refl _))

/-- **A crashed restore is recoverable.**  Stop `restore_backup(tasks)` after any `k` primitive steps: every
path below the backup directory is unchanged, the scan's verdict on the backup is unchanged (it is still
listed if it was), and a second, complete restore returns every recorded file to its backup bytes. -/
theorem restore_recoverable (c : Cfg) (fs : List Path) (orig : Path → List Sym) (tasks : List Name) (s : St) (k : Nat)
    (hne : fs ≠ [])
    (hout : ∀ f ∈ fs, ¬ c.bdir <+: c.dpath f)
    (hcomplete : ∀ f ∈ fs, get s (c.bpath f) = some (.reg (orig f))) :
    (∀ p, c.bdir <+: p → get (crashAfter k (restoreSteps c fs tasks s) s) p = get s p) ∧
    scanOne (crashAfter k (restoreSteps c fs tasks s) s) c.backups c.name = scanOne s c.backups c.name ∧
    ∃ s'', restore c fs [] (crashAfter k (restoreSteps c fs tasks s) s) = .ok s'' ∧
      ∀ f ∈ fs, get s'' (c.dpath f) = some (.reg (orig f)) := by
  refine ⟨restore_never_touches_backup c fs tasks s hout k, Same.scanOne_eq ?_,
    (restore_after_crashed_restore c id fs orig tasks [] s k hne hout (by simp) hcomplete).1⟩
  exact Same.exec ⟨fun _ _ => rfl, rfl, rfl⟩ _ ((copySteps_tgt c id true _ fs s hout).take k)

/-! ## Non-vacuity: the hypotheses are satisfiable and the accepting branch is reachable; two observations -/

section Examples
def cEx : Cfg := { dataRoot := [['d']], backups := [['d'], ['b']], name := ['n'], stamp := ['t'] }
def sEx : St := [([['d']], .dir), ([['d'], ['b']], .dir), ([['d'], ['s']], .dir),
  ([['d'], ['s'], ['a']], .reg [.byte 1, .byte 2, .byte 3]), ([['d'], ['x']], .reg [.byte 7])]
def fEx : List Path := [[['s'], ['a']], [['x']]]
def errOf {α : Type} : Except Err α → Option Err | .error e => some e | .ok _ => none

theorem ex_fresh : ∀ p, cEx.bdir <+: p → get sEx p = none := by
  intro p hp
  obtain ⟨t, rfl⟩ := hp
  simp [sEx, FS.get, cEx, Cfg.bdir]

theorem ex_src : ∀ f ∈ fEx, ∃ b, get sEx (cEx.dpath f) = some (.reg b) := by
  intro f hf
  simp only [fEx, List.mem_cons, List.not_mem_nil, or_false] at hf
  rcases hf with rfl | rfl <;> simp [sEx, FS.get, cEx, Cfg.dpath]

theorem ex_out : ∀ f ∈ fEx, ¬ cEx.bdir <+: cEx.dpath f := by
  intro f hf
  simp only [fEx, List.mem_cons, List.not_mem_nil, or_false] at hf
  rcases hf with rfl | rfl <;> simp [cEx, Cfg.dpath, Cfg.bdir, List.prefix_iff_eq_take]

theorem ex_created : exec (createSteps cEx sEx fEx) sEx = sEx ++
    [(cEx.bdir, .dir), (cEx.broot, .dir), (cEx.bpath [['s']], .dir),
     (cEx.bpath [['s'], ['a']], .reg [.byte 1, .byte 2, .byte 3]), (cEx.bpath [['x']], .reg [.byte 7]),
     (cEx.lock, .reg (record ['t'] [['s', '/', 'a'], ['x']]))] := by decide +kernel

/-- the uninterrupted run is listed with both keys ... -/
example : (scan (exec (createSteps cEx sEx fEx) sEx) cEx.backups).toOption
    = some [(['n'], [['s', '/', 'a'], ['x']])] := by
  rw [ex_created]
  decide +kernel
/-- ... a crash inside the record (17 of 19 steps: half the record written) is rejected as a JSON error ... -/
example : errOf (scan (crashAfter 17 (createSteps cEx sEx fEx) sEx) cEx.backups) = some .jsonDecode := by decide +kernel
/-- ... a crash during the copies leaves a directory that makes the scan fail ... -/
example : errOf (scan (crashAfter 9 (createSteps cEx sEx fEx) sEx) cEx.backups) = some .badBackupFormat := by decide +kernel
/-- ... and restoring after a modification and a deletion brings the bytes back. -/
example : (runOps cEx id fEx [.modify [['d'], ['x']] [.byte 9], .delete [['d'], ['s']], .restore []]
    (exec (createSteps cEx sEx fEx) sEx)).toOption.bind (fun s => get s [['d'], ['s'], ['a']])
    = some (.reg [.byte 1, .byte 2, .byte 3]) := by
  rw [ex_created]
  decide +kernel
/-- two backups side by side: the scan lists both ... -/
example : ((scan (exec (createSteps { cEx with name := ['m'] } (exec (createSteps cEx sEx fEx) sEx) fEx)
      (exec (createSteps cEx sEx fEx) sEx)) cEx.backups).toOption.map (fun l => l.map (·.1)))
    = some [['n'], ['m']] := by
  rw [ex_created]
  decide +kernel
/-- ... and an interrupted second one makes the whole scan fail (the first one's files are intact). -/
example : errOf (scan (crashAfter 9 (createSteps { cEx with name := ['m'] } (exec (createSteps cEx sEx fEx) sEx) fEx)
      (exec (createSteps cEx sEx fEx) sEx)) cEx.backups) = some .badBackupFormat := by
  rw [ex_created]
  decide +kernel
/-- a restore interrupted inside a file leaves it truncated; a complete restore repairs it -/
example : get (crashAfter 3 (restoreSteps cEx fEx [] (exec (createSteps cEx sEx fEx) sEx))
      (exec (createSteps cEx sEx fEx) sEx)) [['d'], ['s'], ['a']] = some (.reg [.byte 1]) := by
  rw [ex_created]
  decide +kernel
/-- record text of a non-ASCII / quoted key: escaped with `\uXXXX` (surrogate pair for U+1F600), read back -/
example : parse (record ['t'] [['é', '/', '😀', '"']]) = some [['é', '/', '😀', '"']] := by decide +kernel
example : (record ['t'] [['😀']]).length = 27 := by decide +kernel
/-- an EMPTY-record backup `e` (made from an empty selection) is listed with record `[]`, and creating
`e` again with a non-empty selection changes nothing -/
example : ((scan (exec (createSteps { cEx with name := ['e'] } sEx []) sEx) cEx.backups).toOption)
    = some [(['e'], [])] := by decide +kernel
example : brun cEx [.create ['e'] fEx, .reopen, .create ['e'] fEx]
      ([(['e'], [])], exec (createSteps { cEx with name := ['e'] } sEx []) sEx)
    = ([(['e'], [])], exec (createSteps { cEx with name := ['e'] } sEx []) sEx) := by decide +kernel
/-- OUTSIDE the property's quantifier (two manager objects, the first one stale): a manager whose dictionary
was read before another manager created backup `n` does not know the name; its `create_backup(.., n)`
goes ahead and OVERWRITES the existing copy (here `d/x`: backed up as byte 7, data changed to 9). The
guard is the in-memory dictionary, not the disk; this is the situation `hfresh` excludes. -/
theorem stale_manager_overwrites_example :
    get (set (exec (createSteps cEx sEx fEx) sEx) [['d'], ['x']] (.reg [.byte 9])) (cEx.bpath [['x']])
      = some (.reg [.byte 7]) ∧
    (bstep cEx ([], set (exec (createSteps cEx sEx fEx) sEx) [['d'], ['x']] (.reg [.byte 9])) (.create ['n'] fEx)).1
      = [(['n'], [['s', '/', 'a'], ['x']])] ∧
    get (bstep cEx ([], set (exec (createSteps cEx sEx fEx) sEx) [['d'], ['x']] (.reg [.byte 9]))
        (.create ['n'] fEx)).2 (cEx.bpath [['x']]) = some (.reg [.byte 9]) := by
  rw [ex_created]
  decide +kernel
/-- ... whereas a manager that was re-opened first refuses -/
example : (bstep cEx (bstep cEx ([], set (exec (createSteps cEx sEx fEx) sEx) [['d'], ['x']] (.reg [.byte 9])) .reopen)
    (.create ['n'] fEx)).2 = set (exec (createSteps cEx sEx fEx) sEx) [['d'], ['x']] (.reg [.byte 9]) := by
  rw [ex_created]
  decide +kernel
/-- a session with restores and modifications satisfying `BOk`, ending in the round trip -/
example : (get (brun cEx [.modify [['d'], ['x']] [.byte 9], .create ['m'] [[['x']]], .reopen, .restore ['n'] []]
    ([(['n'], [['s', '/', 'a'], ['x']])], exec (createSteps cEx sEx fEx) sEx)).2 [['d'], ['x']]) = some (.reg [.byte 7]) := by
  rw [ex_created]
  decide +kernel
/-- Keys are case-preserving (`joinKey`/`splitKey` are the identity on components): two directories that
differ only in case are two backups entries, two copies and two restore destinations. -/
theorem restore_case_sensitive_example :
    let c : Cfg := { dataRoot := [['d']], backups := [['d'], ['b']], name := ['n'], stamp := ['t'] }
    let s0 : St := [([['d']], .dir), ([['d'], ['b']], .dir), ([['d'], ['A']], .dir), ([['d'], ['a']], .dir),
      ([['d'], ['A'], ['x']], .reg [.byte 1]), ([['d'], ['a'], ['x']], .reg [.byte 2])]
    let fs : List Path := [[['A'], ['x']], [['a'], ['x']]]
    let s1 := exec (createSteps c s0 fs) s0
    (scan s1 c.backups).toOption = some [(['n'], [['A', '/', 'x'], ['a', '/', 'x']])] ∧
    splitKey (joinKey [['A'], ['x']]) = [['A'], ['x']] ∧
    (runOps c id fs [.modify [['d'], ['A'], ['x']] [.byte 9], .delete [['d'], ['a']], .restore []] s1).toOption.map
        (fun s => (get s [['d'], ['A'], ['x']], get s [['d'], ['a'], ['x']]))
      = some (some (.reg [.byte 1]), some (.reg [.byte 2])) := by decide +kernel
end Examples

end HedVerif.C18
