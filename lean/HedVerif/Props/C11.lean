/-
C11 — Units are accepted and converted exactly as the schema defines them.
`fold` stands for `str.casefold`; the examples use `lower`.
-/
import HedVerif.Model.Units

namespace HedVerif.Units

theorem getKey_mem {tbl : List Derived} {k : Str} {d : Derived} (h : getKey tbl k = some d) :
    d ∈ tbl ∧ d.key = k :=
  ⟨List.mem_of_find?_eq_some h, by simpa using List.find?_some h⟩

/-- one entry per key -/
def Functional (tbl : List Derived) : Prop := ∀ a ∈ tbl, ∀ b ∈ tbl, a.key = b.key → a = b

theorem getKey_of_mem {tbl : List Derived} (hf : Functional tbl) {d : Derived} (hd : d ∈ tbl) :
    getKey tbl d.key = some d := by
  cases h : getKey tbl d.key with
  | none => simpa using List.find?_eq_none.mp h d hd
  | some x =>
    obtain ⟨hx, hk⟩ := getKey_mem h
    rw [hf x hx d hd hk]

theorem go_eq (mods : List Modifier) (us : List UnitDef) (i0 : Nat) (acc : List Derived) :
    deriveClass.go mods i0 us acc =
      ((us.zipIdx i0).flatMap fun p => deriveUnit mods p.2 p.1).reverse ++ acc := by
  induction us generalizing i0 acc with
  | nil => rfl
  | cons v vs ih =>
    rw [deriveClass.go, ih, List.zipIdx_cons, List.flatMap_cons, List.reverse_append, List.append_assoc]

theorem mem_deriveClass {mods : List Modifier} {c : UnitClass} {d : Derived} :
    d ∈ deriveClass mods c ↔ ∃ i u, c.units[i]? = some u ∧ d ∈ deriveUnit mods i u := by
  simp only [deriveClass, go_eq, List.append_nil, List.mem_reverse, List.mem_flatMap,
    List.mem_zipIdx_iff_getElem?, Prod.exists]
  exact exists_comm

theorem mul_scale (k : Int) (n f : Dec) : (Dec.scale k n).mul f = Dec.scale k (n.mul f) := by
  simp [Dec.mul, Dec.scale, Int.mul_assoc]

/-! ### numeric literals `[+-]?(\d+(\.\d*)?|\.\d+)([eE][+-]?\d+)?`: what they denote, for every digit string
(the correspondence check only samples literals) -/

def AllDigits (s : Str) : Prop := ∀ c ∈ s, isDigit c = true

/-- the head of `r` (if any) is not a digit -/
def StopsDigits (r : Str) : Prop := ∀ c, r.head? = some c → isDigit c = false

theorem foldl_digits (b : Str) (n : Nat) :
    b.foldl (fun acc c => acc * 10 + (c.toNat - '0'.toNat)) n = n * 10 ^ b.length + digitsVal b := by
  induction b generalizing n with
  | nil => simp [digitsVal]
  | cons c b ih =>
    simp only [List.foldl_cons, List.length_cons, digitsVal]
    rw [ih, ih (0 * 10 + _), Nat.pow_succ, Nat.zero_mul, Nat.zero_add, Nat.add_mul, Nat.mul_assoc,
      Nat.mul_comm 10, Nat.add_assoc]

theorem digitsVal_append (a b : Str) : digitsVal (a ++ b) = digitsVal a * 10 ^ b.length + digitsVal b := by
  unfold digitsVal
  rw [List.foldl_append, foldl_digits]; rfl

theorem takeDigits_append (ds r : Str) (hd : AllDigits ds) (hr : StopsDigits r) :
    takeDigits (ds ++ r) = (ds, r) := by
  rw [takeDigits, List.takeWhile_append_of_pos hd, List.dropWhile_append_of_pos hd]
  cases r with
  | nil => rw [List.takeWhile_nil, List.append_nil, List.dropWhile_nil]
  | cons c r =>
    have hc := Bool.eq_false_iff.mp (hr c rfl)
    rw [List.takeWhile_cons_of_neg hc, List.dropWhile_cons_of_neg hc, List.append_nil]

theorem stops_nil : StopsDigits [] := fun _ h => nomatch h

theorem stops_cons (c : Char) (r : Str) (h : isDigit c = false) : StopsDigits (c :: r) := by
  rintro _ ⟨⟩
  exact h

theorem splitSign_plain (d : Char) (ds : Str) (h1 : d ≠ '+') (h2 : d ≠ '-') :
    splitSign (d :: ds) = (false, d :: ds) := by
  unfold splitSign
  split
  next h => exact absurd (List.cons.inj h).1 h1
  next h => exact absurd (List.cons.inj h).1 h2
  · rfl

theorem digit_not_sign (d : Char) (h : isDigit d = true) : d ≠ '+' ∧ d ≠ '-' := by
  constructor <;> (rintro rfl; cases h)

theorem mantOf_point (ip fp r : Str) (hi : AllDigits ip) (hf : AllDigits fp) (hr : StopsDigits r) :
    mantOf (ip ++ '.' :: fp ++ r) = if ip.isEmpty && fp.isEmpty then none else some (ip, fp, r) := by
  have h1 : takeDigits (ip ++ '.' :: (fp ++ r)) = (ip, '.' :: (fp ++ r)) :=
    takeDigits_append ip _ hi (stops_cons _ _ rfl)
  simp only [mantOf, List.append_assoc, List.cons_append, h1, takeDigits_append fp r hf hr]
  cases ip <;> cases fp <;> rfl

theorem parseNumber_unsigned (d : Char) (s : Str) (h1 : d ≠ '+') (h2 : d ≠ '-') :
    parseNumber (d :: s) = finishNumber false (mantOf (d :: s)) := by
  simp only [parseNumber, splitSign_plain d s h1 h2]

theorem expOf_digits (c : Char) (hc : c = 'e' ∨ c = 'E') (g : Char) (gs : Str) (hg : AllDigits (g :: gs)) :
    expOf (c :: g :: gs) = some (digitsVal (g :: gs) : Int) ∧
    expOf (c :: '+' :: g :: gs) = some (digitsVal (g :: gs) : Int) ∧
    expOf (c :: '-' :: g :: gs) = some (-(digitsVal (g :: gs) : Int)) := by
  obtain ⟨h1, h2⟩ := digit_not_sign g (hg g (.head _))
  have ht : takeDigits (g :: gs) = (g :: gs, []) := by
    simpa using takeDigits_append (g :: gs) [] hg stops_nil
  have hce : (c == 'e' || c == 'E') = true := by
    rcases hc with rfl | rfl <;> rfl
  have hp : splitSign ('+' :: g :: gs) = (false, g :: gs) := rfl
  have hm : splitSign ('-' :: g :: gs) = (true, g :: gs) := rfl
  simp [expOf, hce, splitSign_plain g gs h1 h2, hp, hm, ht]

/-- `ip.fp` followed by whatever the exponent stage accepts -/
theorem parse_point (d : Char) (ds fp rest : Str) (hd : AllDigits (d :: ds)) (hf : AllDigits fp)
    (hr : StopsDigits rest) (ev : Int) (he : expOf rest = some ev) :
    parseNumber (d :: ds ++ '.' :: fp ++ rest) =
      some ⟨digitsVal (d :: ds ++ fp), -(fp.length : Int) + ev⟩ := by
  obtain ⟨h1, h2⟩ := digit_not_sign d (hd d (.head _))
  rw [List.cons_append, List.cons_append, parseNumber_unsigned d _ h1 h2, ← List.cons_append,
    ← List.cons_append, mantOf_point (d :: ds) fp rest hd hf hr]
  simp [finishNumber, he]

theorem parse_integer (d : Char) (ds : Str) (hd : AllDigits (d :: ds)) :
    parseNumber (d :: ds) = some ⟨digitsVal (d :: ds), 0⟩ := by
  obtain ⟨h1, h2⟩ := digit_not_sign d (hd d (.head _))
  have ht : takeDigits (d :: ds) = (d :: ds, []) := by
    simpa using takeDigits_append (d :: ds) [] hd stops_nil
  simp [parseNumber_unsigned d ds h1 h2, mantOf, finishNumber, expOf, ht]

theorem parse_decimal (d : Char) (ds fp : Str) (hd : AllDigits (d :: ds)) (hf : AllDigits fp) :
    parseNumber (d :: ds ++ '.' :: fp) = some ⟨digitsVal (d :: ds ++ fp), -(fp.length : Int)⟩ := by
  simpa using parse_point d ds fp [] hd hf stops_nil 0 rfl

theorem parse_scientific (d : Char) (ds fp : Str) (hd : AllDigits (d :: ds)) (hf : AllDigits fp)
    (c : Char) (hc : c = 'e' ∨ c = 'E') (rest : Str) (ev : Int) (he : expOf (c :: rest) = some ev) :
    parseNumber (d :: ds ++ '.' :: fp ++ c :: rest) =
      some ⟨digitsVal (d :: ds ++ fp), -(fp.length : Int) + ev⟩ := by
  refine parse_point d ds fp (c :: rest) hd hf (stops_cons c rest ?_) ev he
  rcases hc with rfl | rfl <;> rfl

theorem parse_fraction (f : Char) (fp : Str) (hf : AllDigits (f :: fp)) :
    parseNumber ('.' :: f :: fp) = some ⟨digitsVal (f :: fp), -((f :: fp).length : Int)⟩ ∧
    parseNumber ['.'] = none := by
  refine ⟨?_, by decide⟩
  have := mantOf_point [] (f :: fp) [] (fun _ h => nomatch h) hf stops_nil
  rw [List.nil_append, List.append_nil] at this
  rw [parseNumber_unsigned '.' _ (by decide) (by decide), this]
  simp [finishNumber, expOf]

theorem finish_neg (mant : Option (Str × Str × Str)) :
    finishNumber true mant = (finishNumber false mant).map (fun x => ⟨-x.m, x.e⟩) := by
  cases mant with
  | none => rfl
  | some t =>
    obtain ⟨ip, fp, rest⟩ := t
    simp only [finishNumber]
    cases expOf rest <;> rfl

theorem parse_sign (d : Char) (s : Str) (h1 : d ≠ '+') (h2 : d ≠ '-') :
    parseNumber ('-' :: d :: s) = (parseNumber (d :: s)).map (fun x => ⟨-x.m, x.e⟩) ∧
    parseNumber ('+' :: d :: s) = parseNumber (d :: s) := by
  rw [parseNumber_unsigned d s h1 h2, ← finish_neg]
  exact ⟨rfl, rfl⟩

theorem parse_double_sign (a b : Char) (ha : a = '+' ∨ a = '-') (hb : b = '+' ∨ b = '-') (s : Str) :
    parseNumber (a :: b :: s) = none := by
  -- after the first sign the mantissa stage sees a text that starts with neither a digit nor `.`
  have hm : mantOf (b :: s) = none := by
    rcases hb with rfl | rfl <;> rfl
  rcases ha with rfl | rfl <;> simp only [parseNumber, splitSign, hm, finishNumber]

theorem parse_nonempty (n : Str) (num : Dec) (hn : parseNumber n = some num) : n ≠ [] := by
  rintro rfl
  cases hn

example : parseNumber "12.50".toList = some ⟨1250, -2⟩ := by decide +kernel
example : parseNumber "-12.50e-1".toList = some ⟨-1250, -3⟩ := by decide +kernel
/-- the hypotheses of `parse_decimal` for the literal above -/
example : AllDigits ['1','2'] ∧ AllDigits ['5','0'] := by
  constructor <;> (intro c hc; simp at hc; rcases hc with rfl | rfl <;> decide)
end HedVerif.Units

namespace HedVerif.C11
open HedVerif.Units

/-- spelling of an optional prefix -/
def pfx (mo : Option Modifier) : Str := (mo.map (·.name)).getD []

/-- the derived entry of base spelling `s` of unit `i` with optional permitted prefix `mo` -/
def entry (i : Nat) (s : Str) (mo : Option Modifier) : Derived := ⟨pfx mo ++ s, i, mo.map (·.factor)⟩

theorem mem_deriveUnit {mods : List Modifier} {i : Nat} {u : UnitDef} {d : Derived} :
    d ∈ deriveUnit mods i u ↔
      ∃ s ∈ baseSpellings u, ∃ mo, (∀ m, mo = some m → m ∈ modifiersFor mods u) ∧ entry i s mo = d := by
  simp only [deriveUnit, List.mem_flatMap, List.mem_cons, List.mem_map]
  constructor
  · rintro ⟨s, hs, rfl | ⟨m, hm, rfl⟩⟩
    · exact ⟨s, hs, none, (fun _ h => nomatch h), rfl⟩
    · exact ⟨s, hs, some m, fun _ e => Option.some.inj e ▸ hm, rfl⟩
  · rintro ⟨s, hs, mo, hmo, rfl⟩
    cases mo with
    | none => exact ⟨s, hs, .inl rfl⟩
    | some m => exact ⟨s, hs, .inr ⟨m, hmo m rfl, rfl⟩⟩

theorem entry_mem_class {mods : List Modifier} {c : UnitClass} {i : Nat} {u : UnitDef}
    (hu : c.units[i]? = some u) {s : Str} (hs : s ∈ baseSpellings u) {mo : Option Modifier}
    (hmo : ∀ m, mo = some m → m ∈ modifiersFor mods u) : entry i s mo ∈ deriveClass mods c :=
  mem_deriveClass.mpr ⟨i, u, hu, mem_deriveUnit.mpr ⟨s, hs, mo, hmo, rfl⟩⟩

/-- **Derived table is complete** (`UnitClassEntry.finalize_entry`): every base spelling of every unit, bare
or behind any modifier the unit permits, is a key bound to that unit with that modifier's factor. -/
theorem derived_complete (mods : List Modifier) (c : UnitClass) (i : Nat) (u : UnitDef)
    (hu : c.units[i]? = some u) (hf : Functional (deriveClass mods c)) (s : Str)
    (hs : s ∈ baseSpellings u) :
    getKey (deriveClass mods c) s = some ⟨s, i, none⟩ ∧
    ∀ m ∈ modifiersFor mods u,
      getKey (deriveClass mods c) (m.name ++ s) = some ⟨m.name ++ s, i, some m.factor⟩ :=
  ⟨getKey_of_mem hf (d := ⟨s, i, none⟩) (entry_mem_class hu hs (mo := none) (fun _ h => nomatch h)),
   fun m hm => getKey_of_mem hf (d := ⟨m.name ++ s, i, some m.factor⟩)
     (entry_mem_class hu hs (mo := some m) fun _ e => Option.some.inj e ▸ hm)⟩

/-- Only SI units take prefixes, and symbol units take symbol prefixes only. -/
theorem prefix_rule (mods : List Modifier) (u : UnitDef) (m : Modifier) (hm : m ∈ modifiersFor mods u) :
    u.isSI = true ∧ (if u.isSymbol then m.forSymbol = true else m.forName = true) := by
  unfold modifiersFor at hm
  cases hsi : u.isSI
  · simp [hsi] at hm
  · cases hsy : u.isSymbol <;> simp [hsi, hsy] at hm ⊢ <;> exact hm.2

/-- **Name units are case-insensitive** (`get_derivative_unit_entry`). -/
theorem lookup_name_any_case (mods : List Modifier) (c : UnitClass) (fold : Str → Str) (σ : Str)
    (d : Derived) (hd : getKey (deriveClass mods c) (fold σ) = some d)
    (hns : (c.units[d.unit]?.map (·.isSymbol)).getD false = false)
    (hex : ∀ x, getKey (deriveClass mods c) σ = some x →
      (c.units[x.unit]?.map (·.isSymbol)).getD false = false) :
    lookupClass mods c fold σ = some d := by
  cases h : getKey (deriveClass mods c) σ with
  | none => simp only [lookupClass, h, hd, hns, Bool.false_eq_true, ↓reduceIte]
  | some x => simp only [lookupClass, h, hd, hns, hex x h, Bool.false_eq_true, ↓reduceIte]

/-- **Symbols are exact.** -/
theorem lookup_symbol_exact (mods : List Modifier) (c : UnitClass) (fold : Str → Str) (σ : Str)
    (d : Derived) (hd : getKey (deriveClass mods c) σ = some d)
    (hs : (c.units[d.unit]?.map (·.isSymbol)).getD false = true) :
    lookupClass mods c fold σ = some d := by
  simp only [lookupClass, hd, hs, ↓reduceIte]

theorem lookup_none (mods : List Modifier) (c : UnitClass) (fold : Str → Str) (σ : Str)
    (hex : ∀ d, getKey (deriveClass mods c) σ = some d → isSymD c d = false)
    (hfold : ∀ d, getKey (deriveClass mods c) (fold σ) = some d → isSymD c d = true) :
    lookupClass mods c fold σ = none := by
  unfold isSymD at hex hfold
  cases h2 : getKey (deriveClass mods c) (fold σ) with
  | none =>
    cases h1 : getKey (deriveClass mods c) σ with
    | none => simp only [lookupClass, h1, h2]
    | some d => simp only [lookupClass, h1, h2, hex d h1, Bool.false_eq_true, ↓reduceIte]
  | some d2 =>
    cases h1 : getKey (deriveClass mods c) σ with
    | none => simp only [lookupClass, h1, h2, hfold d2 h2, ↓reduceIte]
    | some d => simp only [lookupClass, h1, h2, hex d h1, hfold d2 h2, Bool.false_eq_true, ↓reduceIte]

/-- a symbol reached only through folding is rejected -/
theorem lookup_symbol_wrong_case (mods : List Modifier) (c : UnitClass) (fold : Str → Str) (σ : Str)
    (d : Derived) (h1 : getKey (deriveClass mods c) σ = none)
    (hd : getKey (deriveClass mods c) (fold σ) = some d)
    (hs : (c.units[d.unit]?.map (·.isSymbol)).getD false = true) :
    lookupClass mods c fold σ = none := by
  apply lookup_none
  · intro x hx
    rw [h1] at hx
    cases hx
  · intro x hx
    rw [hd] at hx
    cases hx
    exact hs

theorem idxOf?_blank (b r : Str) (hb : ' ' ∉ b) : (b ++ ' ' :: r).idxOf? ' ' = some b.length := by
  have : b.findIdx? (· == ' ') = none := List.idxOf?_eq_none_iff.mpr hb
  simp [List.idxOf?, List.findIdx?_append, this, List.findIdx?_cons]

theorem rpartition_append (a b : Str) (hb : ' ' ∉ b) : rpartitionBlank (a ++ ' ' :: b) = (a, b) := by
  have hr : (a ++ ' ' :: b).reverse = b.reverse ++ ' ' :: a.reverse := by simp
  simp only [rpartitionBlank, hr, idxOf?_blank _ _ (mt List.mem_reverse.mp hb), List.take_left]
  rw [List.append_cons, List.drop_left' (by simp)]
  simp

theorem rpartition_no_blank (ext : Str) (hb : ' ' ∉ ext) : rpartitionBlank ext = ([], ext) := by
  simp only [rpartitionBlank, List.idxOf?_eq_none_iff.mpr (mt List.mem_reverse.mp hb)]

theorem unitsPortion_blank (mods : List Modifier) (classes : List UnitClass) (fold : Str → Str)
    (a b : Str) (hb : ' ' ∉ b) :
    unitsPortion mods classes fold (a ++ ' ' :: b) =
      if b.isEmpty then none else unitsPortion.go mods fold a b 0 classes := by
  simp only [unitsPortion, rpartition_append a b hb]

/-! ### the class loop of `_get_tag_units_portion` -/

theorem go_value_empty (mods : List Modifier) (fold : Str → Str) (units : Str) (cs : List UnitClass)
    (hempty : ∀ c ∈ cs, lookupClass mods c fold [] = none) (ci : Nat) (m : Match)
    (h : unitsPortion.go mods fold [] units ci cs = some m) : m.value = [] := by
  induction cs generalizing ci with
  | nil => simp [unitsPortion.go] at h
  | cons c cs ih =>
    have ih' := ih (fun c hc => hempty c (List.mem_cons_of_mem _ hc))
    simp only [unitsPortion.go, hempty c List.mem_cons_self] at h
    cases hl : lookupClass mods c fold units with
    | none => exact ih' _ (by simpa only [hl] using h)
    | some d =>
      simp only [hl] at h
      split at h
      · cases h; rfl
      · exact ih' _ h

theorem go_skip (mods : List Modifier) (fold : Str → Str) (value units : Str)
    (pre rest : List UnitClass) (ci : Nat)
    (h : ∀ c' ∈ pre, lookupClass mods c' fold units = none ∧ lookupClass mods c' fold value = none) :
    unitsPortion.go mods fold value units ci (pre ++ rest) =
      unitsPortion.go mods fold value units (ci + pre.length) rest := by
  induction pre generalizing ci with
  | nil => rfl
  | cons p ps ih =>
    obtain ⟨h1, h2⟩ := h p List.mem_cons_self
    simp only [List.cons_append, unitsPortion.go, h1, h2]
    rw [ih (ci + 1) fun c' hc' => h c' (List.mem_cons_of_mem _ hc'), List.length_cons, Nat.add_right_comm,
      Nat.add_assoc]

theorem go_none (mods : List Modifier) (fold : Str → Str) (value units : Str) (cs : List UnitClass) (ci : Nat)
    (h : ∀ c' ∈ cs, lookupClass mods c' fold units = none ∧ lookupClass mods c' fold value = none) :
    unitsPortion.go mods fold value units ci cs = none := by
  simpa [unitsPortion.go] using go_skip mods fold value units cs [] ci h

/-- **A bare number draws only the missing-unit warning.** -/
theorem bare_number (mods : List Modifier) (classes : List UnitClass) (fold : Str → Str)
    (numeric : Bool) (ext : Str) (hc : classes ≠ []) (hb : ' ' ∉ ext) (hn : isNumeric ext = true)
    (hempty : ∀ c ∈ classes, lookupClass mods c fold [] = none) :
    check mods classes fold numeric ext = [.unitsMissing] := by
  have hst : stripped mods classes fold ext = (ext, none) := by
    unfold stripped
    cases hu : unitsPortion mods classes fold ext with
    | none => rfl
    | some m =>
      -- a match would have the empty text before the (absent) blank as its value
      have hv : m.value = [] := by
        simp only [unitsPortion, rpartition_no_blank ext hb] at hu
        split at hu
        · cases hu
        · exact go_value_empty mods fold ext classes hempty 0 m hu
      simp [hv]
  simp [check, List.isEmpty_eq_false_iff.mpr hc, hst, hb, hn]

/-- **Unrecognised unit: invalid-unit error, and the converted value is absent, not an exception.** -/
theorem unrecognised_unit (mods : List Modifier) (classes : List UnitClass) (fold : Str → Str)
    (numeric : Bool) (ext : Str) (hc : classes ≠ []) (hb : ' ' ∈ ext)
    (hno : unitsPortion mods classes fold ext = none) (hv : (rpartitionBlank ext).1 ≠ []) :
    Issue.unitsInvalid ∈ check mods classes fold numeric ext ∧
    valueAsDefault mods classes fold ext = .absent := by
  constructor
  · simp [check, stripped, List.isEmpty_eq_false_iff.mpr hc, hno, hb]
  · simp [valueAsDefault, List.isEmpty_eq_false_iff.mpr hv, hno]

theorem accepted_check (mods : List Modifier) (classes : List UnitClass) (fold : Str → Str)
    (numeric : Bool) (ext : Str) (m : Match) (hc : classes ≠ [])
    (hm : unitsPortion mods classes fold ext = some m)
    (hn : isNumeric m.value = true) (hsp : ' ' ∉ m.value) (hv : m.value ≠ []) :
    check mods classes fold numeric ext = [] := by
  simp [check, stripped, List.isEmpty_eq_false_iff.mpr hc, hm, List.isEmpty_eq_false_iff.mpr hv, hsp, hn]

/-- **Accepted spelling with a declared factor: the value is number × unit factor × prefix factor**,
and validation reports no unit issue. -/
theorem accepted_value (mods : List Modifier) (classes : List UnitClass) (fold : Str → Str)
    (numeric : Bool) (ext : Str) (m : Match) (u : UnitDef) (c : UnitClass) (f n : Dec)
    (hm : unitsPortion mods classes fold ext = some m) (hv : m.value ≠ [])
    (hv1 : (rpartitionBlank ext).1 ≠ [])
    (hcls : classes[m.cls]? = some c) (hu : c.units[m.d.unit]? = some u) (hf : u.factor = some f)
    (hn : parseNumber m.value = some n) (hsp : ' ' ∉ m.value) (mf : Option Dec)
    (hown : ownFactor mods m.d.unit u fold m.unitText = some mf) :
    valueAsDefault mods classes fold ext = .value (n.mul (f.mul (mf.getD Dec.one))) ∧
    check mods classes fold numeric ext = [] := by
  constructor
  · simp [valueAsDefault, List.isEmpty_eq_false_iff.mpr hv1, hm, List.isEmpty_eq_false_iff.mpr hv, hcls,
      hu, hf, hn, hown]
  · have hc : classes ≠ [] := by
      rintro rfl
      cases hcls
    exact accepted_check mods classes fold numeric ext m hc hm (by simp [isNumeric, hn]) hsp hv

/-- `UnitEntry.get_conversion_factor`: the unit's own table finds the prefix factor of a spelling typed in any
case that folds to the derived key. -/
theorem own_factor_of_key (mods : List Modifier) (i : Nat) (u : UnitDef) (fold : Str → Str) (σ : Str)
    (d : Derived) (hf : Functional (deriveUnit mods i u).reverse)
    (hd : d ∈ deriveUnit mods i u) (hk : fold σ = d.key)
    (hex : ∀ x, getKey (deriveUnit mods i u).reverse σ = some x → x.modFactor = d.modFactor) :
    ownFactor mods i u fold σ = some d.modFactor := by
  unfold ownFactor
  cases h : getKey (deriveUnit mods i u).reverse σ with
  | some x => simp only [h, hex x h]
  | none => simp only [h, hk, getKey_of_mem hf (List.mem_reverse.mpr hd), Option.map_some]

/-- **Linear in the number.** Scaling the number by an integer scales the converted value. -/
theorem value_linear (k : Int) (n f : Dec) (mf : Option Dec) :
    (Dec.scale k n).mul (f.mul (mf.getD Dec.one)) = Dec.scale k (n.mul (f.mul (mf.getD Dec.one))) :=
  mul_scale k n _

/-- accepted and rejected spellings of the numericClass pattern -/
example : (["3", "-3", "+3", "3.5", ".5", "3.", "1e3", "1E-3", "007", "0"].map
    fun s => (parseNumber s.toList).isSome) = List.replicate 10 true := by decide +kernel
example : (["", ".", "e3", "3e", "3 ", "1.2.3", "--3", "3ms", "1e+", "abc"].map
    fun s => (parseNumber s.toList).isSome) = List.replicate 10 false := by decide +kernel
example : parseNumber "-12.50e-1".toList = some ⟨-1250, -3⟩ := by decide +kernel

/-- non-vacuity: a time class with an SI symbol unit, a name unit, and a milli prefix -/
def exMods : List Modifier := [⟨"m".toList, true, false, ⟨1, -3⟩⟩, ⟨"milli".toList, false, true, ⟨1, -3⟩⟩]
def exClass : UnitClass :=
  ⟨"timeUnits".toList, [⟨"second".toList, false, true, false, some ⟨1, 0⟩, "seconds".toList⟩,
                        ⟨"s".toList, true, true, false, some ⟨1, 0⟩, [] ⟩], some "s".toList⟩
example : valueAsDefault exMods [exClass] lower "3 Milliseconds".toList = .value ⟨3, -3⟩ := by decide +kernel
example : valueAsDefault exMods [exClass] lower "3 ms".toList = .value ⟨3, -3⟩ := by decide +kernel
example : valueAsDefault exMods [exClass] lower "3 MS".toList = .absent := by decide +kernel
example : check exMods [exClass] lower true "3 MS".toList = [.unitsInvalid] := by decide +kernel
example : check exMods [exClass] lower true "3".toList = [.unitsMissing] := by decide +kernel


/-! ## Closed forms

The theorems so far assume facts about the derived table. `UnitsDistinct` is a decidable condition on a
class, evaluated by the driver for every bundled class, from which they follow; a `…_closed` theorem assumes
only it and conditions on the text. `nonempty` excludes `fold []` because `lookupClass` also asks for the
folded text. -/

/-- the well-formedness condition as a proposition -/
structure UnitsDistinct (mods : List Modifier) (c : UnitClass) (fold : Str → Str) : Prop where
  functional : Functional (deriveClass mods c)
  nonempty : ∀ d ∈ deriveClass mods c, d.key ≠ [] ∧ d.key ≠ fold []
  nameFixed : ∀ d ∈ deriveClass mods c, isSymD c d = false → fold d.key = d.key
  symApart : ∀ a ∈ deriveClass mods c, ∀ b ∈ deriveClass mods c,
    isSymD c a = true → isSymD c b = false → fold a.key ≠ b.key

theorem unitsDistinct_iff (mods : List Modifier) (c : UnitClass) (fold : Str → Str) :
    unitsDistinct mods c fold = true ↔ UnitsDistinct mods c fold := by
  -- `Derived` has no decidable equality: the test compares the two fields other than the key
  have same (a b : Derived) : (¬ a.key = b.key ∨ a.unit = b.unit ∧ a.modFactor = b.modFactor) ↔
      (a.key = b.key → a = b) := by
    cases a
    cases b
    simp only [Derived.mk.injEq, Decidable.or_iff_not_imp_left, Decidable.not_not]
    exact ⟨fun h e => ⟨e, h e⟩, fun h e => (h e).2⟩
  simp only [unitsDistinct, Bool.and_eq_true, List.all_eq_true, Bool.or_eq_true, bne_iff_ne, ne_eq,
    beq_iff_eq, Bool.not_eq_eq_eq_not, Bool.not_true, same]
  simp only [Decidable.or_iff_not_imp_left, Bool.not_eq_true, Bool.not_eq_false]
  exact ⟨fun ⟨⟨⟨h1, h2⟩, h3⟩, h4⟩ => ⟨h1, h2, h3, fun a ha b hb hsa => h4 a ha hsa b hb⟩,
    fun h => ⟨⟨⟨h.functional, h.nonempty⟩, h.nameFixed⟩, fun a ha hsa b hb => h.symApart a ha b hb hsa⟩⟩

instance (mods : List Modifier) (c : UnitClass) (fold : Str → Str) : Decidable (UnitsDistinct mods c fold) :=
  decidable_of_iff _ (unitsDistinct_iff mods c fold)

/-- the unit text is a spelling of the class: a symbol unit's spelling exactly as derived, or a name
unit's spelling after case folding -/
def Accepts (mods : List Modifier) (c : UnitClass) (fold : Str → Str) (σ : Str) : Prop :=
  (∃ d ∈ deriveClass mods c, isSymD c d = true ∧ d.key = σ) ∨
  (∃ d ∈ deriveClass mods c, isSymD c d = false ∧ d.key = fold σ)

theorem lookup_none_of_not_accepts (mods : List Modifier) (c : UnitClass) (fold : Str → Str) (σ : Str)
    (h : ¬ Accepts mods c fold σ) : lookupClass mods c fold σ = none := by
  apply lookup_none
  · intro d h1
    obtain ⟨m1, k1⟩ := getKey_mem h1
    exact Bool.eq_false_iff.mpr fun hs => h (.inl ⟨d, m1, hs, k1⟩)
  · intro d h2
    obtain ⟨m2, k2⟩ := getKey_mem h2
    exact Decidable.not_not.mp fun hs => h (.inr ⟨d, m2, Bool.eq_false_iff.mpr hs, k2⟩)

theorem lookup_name (mods : List Modifier) (c : UnitClass) (fold : Str → Str)
    (hD : UnitsDistinct mods c fold) (d : Derived) (hd : d ∈ deriveClass mods c)
    (hs : isSymD c d = false) (σ : Str) (hσ : fold σ = d.key) : lookupClass mods c fold σ = some d := by
  apply lookup_name_any_case mods c fold σ d (hσ ▸ getKey_of_mem hD.functional hd) hs
  intro x hx
  obtain ⟨mx, kx⟩ := getKey_mem hx
  exact Bool.eq_false_iff.mpr fun hsx => hD.symApart x mx d hd hsx hs (by rw [kx, hσ])

theorem lookup_sym (mods : List Modifier) (c : UnitClass) (fold : Str → Str)
    (hD : UnitsDistinct mods c fold) (d : Derived) (hd : d ∈ deriveClass mods c)
    (hs : isSymD c d = true) : lookupClass mods c fold d.key = some d :=
  lookup_symbol_exact mods c fold d.key d (getKey_of_mem hD.functional hd) hs

/-- **Validation lookup = the property's acceptance rule.** -/
theorem lookup_iff_accepts (mods : List Modifier) (c : UnitClass) (fold : Str → Str)
    (hD : UnitsDistinct mods c fold) (σ : Str) :
    (lookupClass mods c fold σ).isSome = true ↔ Accepts mods c fold σ := by
  constructor
  · intro h
    apply Classical.byContradiction
    intro hn
    rw [lookup_none_of_not_accepts mods c fold σ hn] at h
    cases h
  · rintro (⟨d, hd, hs, rfl⟩ | ⟨d, hd, hs, hk⟩)
    · rw [lookup_sym mods c fold hD d hd hs]; rfl
    · rw [lookup_name mods c fold hD d hd hs σ hk.symm]; rfl

/-- side hypothesis of `bare_number` -/
theorem distinct_no_empty_spelling (mods : List Modifier) (c : UnitClass) (fold : Str → Str)
    (hD : UnitsDistinct mods c fold) : lookupClass mods c fold [] = none := by
  apply lookup_none_of_not_accepts
  rintro (⟨d, hd, _, hk⟩ | ⟨d, hd, _, hk⟩)
  · exact (hD.nonempty d hd).1 hk
  · exact (hD.nonempty d hd).2 hk

theorem bare_number_closed (mods : List Modifier) (classes : List UnitClass) (fold : Str → Str)
    (numeric : Bool) (ext : Str) (hc : classes ≠ []) (hb : ' ' ∉ ext) (hn : isNumeric ext = true)
    (hD : ∀ c ∈ classes, UnitsDistinct mods c fold) :
    check mods classes fold numeric ext = [.unitsMissing] :=
  bare_number mods classes fold numeric ext hc hb hn
    (fun c hcm => distinct_no_empty_spelling mods c fold (hD c hcm))

theorem own_factor_closed (mods : List Modifier) (c : UnitClass) (fold : Str → Str)
    (hD : UnitsDistinct mods c fold) (i : Nat) (u : UnitDef) (hu : c.units[i]? = some u)
    (d : Derived) (hd : d ∈ deriveUnit mods i u) (σ : Str)
    (hσ : if u.isSymbol then σ = d.key else fold σ = d.key) :
    ownFactor mods i u fold σ = some d.modFactor := by
  have hsub : ∀ x ∈ (deriveUnit mods i u).reverse, x ∈ deriveClass mods c := fun x hx =>
    mem_deriveClass.mpr ⟨i, u, hu, List.mem_reverse.mp hx⟩
  have hfun : Functional (deriveUnit mods i u).reverse := fun a ha b hb =>
    hD.functional a (hsub a ha) b (hsub b hb)
  cases hsy : u.isSymbol with
  | true =>
    rw [hsy, if_pos rfl] at hσ
    simp only [ownFactor, hσ, getKey_of_mem hfun (List.mem_reverse.mpr hd)]
  | false =>
    rw [hsy, if_neg Bool.false_ne_true] at hσ
    apply own_factor_of_key mods i u fold σ d hfun hd hσ
    -- an exact hit is a name spelling of this unit, fixed by folding, hence the folded hit itself
    intro x hx
    obtain ⟨mx, kx⟩ := getKey_mem hx
    obtain ⟨_, _, _, _, rfl⟩ := mem_deriveUnit.mp (List.mem_reverse.mp mx)
    have hfix := hD.nameFixed _ (hsub _ mx) (by simp [isSymD, entry, hu, hsy])
    rw [hfun _ mx d (List.mem_reverse.mpr hd) (by rw [← hσ, ← kx, hfix])]

/-- What the two accepted forms share: `σ` is non-empty and found as its derived entry, by the class and
by the unit's own table; each form shows from this that `_get_tag_units_portion` matches it (`hm`). -/
theorem accept_of_match (mods : List Modifier) (pre post : List UnitClass) (c : UnitClass)
    (fold : Str → Str) (numeric : Bool) (hD : UnitsDistinct mods c fold)
    (i : Nat) (u : UnitDef) (hu : c.units[i]? = some u) (s : Str) (hs : s ∈ baseSpellings u)
    (mo : Option Modifier) (hmo : ∀ m, mo = some m → m ∈ modifiersFor mods u)
    (σ : Str) (hσ : if u.isSymbol then σ = pfx mo ++ s else fold σ = pfx mo ++ s)
    (n : Str) (num : Dec) (hn : parseNumber n = some num) (hnb : ' ' ∉ n) (ext : Str)
    (hm : lookupClass mods c fold σ = some (entry i s mo) → σ ≠ [] →
      unitsPortion mods (pre ++ c :: post) fold ext = some ⟨n, σ, pre.length, entry i s mo⟩)
    (hv1 : σ ≠ [] → (rpartitionBlank ext).1 ≠ []) :
    unitsPortion mods (pre ++ c :: post) fold ext = some ⟨n, σ, pre.length, entry i s mo⟩ ∧
    check mods (pre ++ c :: post) fold numeric ext = [] ∧
    ∀ f, u.factor = some f → valueAsDefault mods (pre ++ c :: post) fold ext =
      .value (num.mul (f.mul ((mo.map (·.factor)).getD Dec.one))) := by
  have hdC : entry i s mo ∈ deriveClass mods c := entry_mem_class hu hs hmo
  have hsym : isSymD c (entry i s mo) = u.isSymbol := by simp [isSymD, entry, hu]
  have hlook : lookupClass mods c fold σ = some (entry i s mo) := by
    cases hsy : u.isSymbol with
    | true =>
      rw [hsy, if_pos rfl] at hσ
      exact hσ ▸ lookup_sym mods c fold hD _ hdC (hsym.trans hsy)
    | false =>
      rw [hsy, if_neg Bool.false_ne_true] at hσ
      exact lookup_name mods c fold hD _ hdC (hsym.trans hsy) σ hσ
  have hσne : σ ≠ [] := by
    rintro rfl
    rw [distinct_no_empty_spelling mods c fold hD] at hlook
    cases hlook
  have hm := hm hlook hσne
  have hnne := parse_nonempty n num hn
  have hown := own_factor_closed mods c fold hD i u hu _ (mem_deriveUnit.mpr ⟨s, hs, mo, hmo, rfl⟩) σ hσ
  refine ⟨hm, accepted_check mods _ fold numeric ext _ (by simp) hm (by simp [isNumeric, hn]) hnb hnne,
    fun f hf => ?_⟩
  exact (accepted_value mods _ fold numeric ext _ u c f num hm hnne (hv1 hσne) (by simp) hu hf hn hnb _
    hown).1

/-- **Accepted (unit after the number):** unit `u`, permitted prefix `mo` (or none), base spelling `s`, any
case variant `σ` of prefix ++ `s` for a name unit, exactly that string for a symbol, numeric literal `n`.
`hpre` asks for both texts because every class is tried with the unit after the number and with a
prefix-type unit before it. -/
theorem accept_closed (mods : List Modifier) (pre post : List UnitClass) (c : UnitClass)
    (fold : Str → Str) (numeric : Bool) (hD : UnitsDistinct mods c fold)
    (i : Nat) (u : UnitDef) (hu : c.units[i]? = some u) (hnp : u.isPrefix = false)
    (s : Str) (hs : s ∈ baseSpellings u)
    (mo : Option Modifier) (hmo : ∀ m, mo = some m → m ∈ modifiersFor mods u)
    (σ : Str) (hσ : if u.isSymbol then σ = pfx mo ++ s else fold σ = pfx mo ++ s) (hσb : ' ' ∉ σ)
    (n : Str) (num : Dec) (hn : parseNumber n = some num) (hnb : ' ' ∉ n)
    (hpre : ∀ c' ∈ pre, lookupClass mods c' fold σ = none ∧ lookupClass mods c' fold n = none) :
    unitsPortion mods (pre ++ c :: post) fold (n ++ ' ' :: σ) = some ⟨n, σ, pre.length, entry i s mo⟩ ∧
    check mods (pre ++ c :: post) fold numeric (n ++ ' ' :: σ) = [] ∧
    ∀ f, u.factor = some f →
      valueAsDefault mods (pre ++ c :: post) fold (n ++ ' ' :: σ) =
        .value (num.mul (f.mul ((mo.map (·.factor)).getD Dec.one))) := by
  apply accept_of_match mods pre post c fold numeric hD i u hu s hs mo hmo σ hσ n num hn hnb
  · intro hlook hσne
    rw [unitsPortion_blank _ _ _ _ _ hσb, if_neg (by simpa using hσne), go_skip mods fold n σ pre _ 0 hpre]
    simp [unitsPortion.go, hlook, entry, hu, hnp]
  · rw [rpartition_append n σ hσb]
    exact fun _ => parse_nonempty n num hn

/-- **Accepted (prefix-type unit before the number).** Extra hypothesis: the number is not itself a unit
spelling of the class. -/
theorem accept_closed_prefix_unit (mods : List Modifier) (pre post : List UnitClass) (c : UnitClass)
    (fold : Str → Str) (numeric : Bool) (hD : UnitsDistinct mods c fold)
    (i : Nat) (u : UnitDef) (hu : c.units[i]? = some u) (hp : u.isPrefix = true)
    (s : Str) (hs : s ∈ baseSpellings u)
    (mo : Option Modifier) (hmo : ∀ m, mo = some m → m ∈ modifiersFor mods u)
    (σ : Str) (hσ : if u.isSymbol then σ = pfx mo ++ s else fold σ = pfx mo ++ s) (hσb : ' ' ∉ σ)
    (n : Str) (num : Dec) (hn : parseNumber n = some num) (hnb : ' ' ∉ n)
    (hnc : lookupClass mods c fold n = none)
    (hpre : ∀ c' ∈ pre, lookupClass mods c' fold σ = none ∧ lookupClass mods c' fold n = none) :
    unitsPortion mods (pre ++ c :: post) fold (σ ++ ' ' :: n) = some ⟨n, σ, pre.length, entry i s mo⟩ ∧
    check mods (pre ++ c :: post) fold numeric (σ ++ ' ' :: n) = [] ∧
    ∀ f, u.factor = some f →
      valueAsDefault mods (pre ++ c :: post) fold (σ ++ ' ' :: n) =
        .value (num.mul (f.mul ((mo.map (·.factor)).getD Dec.one))) := by
  apply accept_of_match mods pre post c fold numeric hD i u hu s hs mo hmo σ hσ n num hn hnb
  · intro hlook _
    rw [unitsPortion_blank _ _ _ _ _ hnb, if_neg (by simpa using parse_nonempty n num hn),
      go_skip mods fold σ n pre _ 0 fun c' hc' => (hpre c' hc').symm]
    simp [unitsPortion.go, hlook, hnc, entry, hu, hp]
  · rw [rpartition_append σ n hnb]
    exact id

/-- **Rejected:** a unit text that is a spelling of none of the tag's classes — the number part neither, it
could be a prefix-type unit — gets UNITS_INVALID and no converted value. -/
theorem reject_closed (mods : List Modifier) (classes : List UnitClass) (fold : Str → Str)
    (numeric : Bool) (n σ : Str) (hc : classes ≠ []) (hσb : ' ' ∉ σ) (hnne : n ≠ [])
    (hno : ∀ c ∈ classes, ¬ Accepts mods c fold σ) (hnn : ∀ c ∈ classes, ¬ Accepts mods c fold n) :
    Issue.unitsInvalid ∈ check mods classes fold numeric (n ++ ' ' :: σ) ∧
    valueAsDefault mods classes fold (n ++ ' ' :: σ) = .absent := by
  apply unrecognised_unit mods classes fold numeric _ hc (by simp)
  · rw [unitsPortion_blank _ _ _ _ _ hσb, go_none mods fold n σ classes 0 fun c hcm =>
      ⟨lookup_none_of_not_accepts mods c fold σ (hno c hcm),
       lookup_none_of_not_accepts mods c fold n (hnn c hcm)⟩, ite_self]
  · rw [rpartition_append n σ hσb]
    exact hnne

/-- the rational number an exact decimal denotes: `m · 10^e` -/
def Dec.toRat (a : Dec) : Rat := (a.m : Rat) * (10 : Rat) ^ a.e

theorem toRat_mul (a b : Dec) : Dec.toRat (a.mul b) = Dec.toRat a * Dec.toRat b := by
  simp only [Dec.toRat, Dec.mul, Rat.intCast_mul, Rat.zpow_add (by decide : (10 : Rat) ≠ 0)]
  grind

theorem toRat_one : Dec.toRat Dec.one = 1 := by
  simp [Dec.toRat, Dec.one]

theorem toRat_scale (k : Int) (a : Dec) : Dec.toRat (Dec.scale k a) = (k : Rat) * Dec.toRat a := by
  simp only [Dec.toRat, Dec.scale, Rat.intCast_mul, Rat.mul_assoc]

example : Dec.toRat ⟨-1250, -3⟩ = -5 / 4 := by decide +kernel
example : Dec.toRat ⟨3, 2⟩ = 300 := by decide +kernel

theorem value_rat (n f : Dec) (mf : Option Dec) :
    Dec.toRat (n.mul (f.mul (mf.getD Dec.one))) =
      Dec.toRat n * Dec.toRat f * (mf.map Dec.toRat).getD 1 := by
  cases mf with
  | none => simp [toRat_mul, toRat_one]
  | some g => simp [toRat_mul, Rat.mul_assoc]

theorem value_linear_rat (k : Int) (n g : Dec) :
    Dec.toRat ((Dec.scale k n).mul g) = (k : Rat) * Dec.toRat (n.mul g) := by
  rw [mul_scale, toRat_scale]

theorem accept_value_rat (mods : List Modifier) (pre post : List UnitClass) (c : UnitClass)
    (fold : Str → Str) (hD : UnitsDistinct mods c fold)
    (i : Nat) (u : UnitDef) (hu : c.units[i]? = some u) (hnp : u.isPrefix = false)
    (s : Str) (hs : s ∈ baseSpellings u)
    (mo : Option Modifier) (hmo : ∀ m, mo = some m → m ∈ modifiersFor mods u)
    (σ : Str) (hσ : if u.isSymbol then σ = pfx mo ++ s else fold σ = pfx mo ++ s) (hσb : ' ' ∉ σ)
    (n : Str) (num : Dec) (hn : parseNumber n = some num) (hnb : ' ' ∉ n)
    (hpre : ∀ c' ∈ pre, lookupClass mods c' fold σ = none ∧ lookupClass mods c' fold n = none)
    (f : Dec) (hf : u.factor = some f) :
    ∃ v, valueAsDefault mods (pre ++ c :: post) fold (n ++ ' ' :: σ) = .value v ∧
      Dec.toRat v = Dec.toRat num * Dec.toRat f * (mo.map fun m => Dec.toRat m.factor).getD 1 := by
  refine ⟨_, (accept_closed mods pre post c fold true hD i u hu hnp s hs mo hmo σ hσ hσb n num hn hnb hpre).2.2 f hf, ?_⟩
  rw [value_rat]
  cases mo <;> rfl

theorem parse_decimal_rat (d : Char) (ds fp : Str) (hd : AllDigits (d :: ds)) (hf : AllDigits fp) :
    (parseNumber (d :: ds ++ '.' :: fp)).map Dec.toRat =
      some ((digitsVal (d :: ds) : Rat) + (digitsVal fp : Rat) / (10 : Rat) ^ fp.length) := by
  rw [parse_decimal d ds fp hd hf]
  simp only [Option.map_some, Option.some.injEq, Dec.toRat]
  rw [show (d :: ds ++ fp) = (d :: ds) ++ fp from rfl, digitsVal_append]
  have h10 : ((10 : Rat) ^ fp.length) ≠ 0 := Rat.ne_of_gt (Rat.pow_pos (by decide))
  rw [Rat.zpow_neg, Rat.zpow_natCast]
  simp only [Int.natCast_add, Int.natCast_mul, Int.natCast_pow, Rat.intCast_add, Rat.intCast_mul, Rat.intCast_pow, Rat.intCast_natCast]
  have hc : ((10 : Nat) : Rat) = 10 := by simp
  rw [hc, Rat.div_def, Rat.add_mul, Rat.mul_assoc, Rat.mul_inv_cancel _ h10]
  simp

example : (parseNumber "12.50".toList).map Dec.toRat = some (25 / 2) := by decide +kernel

theorem exClass_distinct : UnitsDistinct exMods exClass lower := by decide +kernel
example : UnitsDistinct exMods exClass lower := exClass_distinct
/-- a class where the condition fails: a symbol `S` next to a name unit `s` -/
example : ¬ UnitsDistinct [] ⟨[], [⟨['S'], true, false, false, none, []⟩, ⟨['s'], false, false, false, none, ['s', 's']⟩], none⟩ lower := by
  decide +kernel
example : (unitsPortion exMods [exClass] lower "3 MilliSeconds".toList).map (·.d.key) =
    some "milliseconds".toList := by decide +kernel
example : (unitsPortion exMods [exClass] lower "3 MilliSeconds".toList).map (·.d.modFactor) =
    some (some ⟨1, -3⟩) := by decide +kernel
example : Accepts exMods exClass lower "ms".toList := by
  rw [← lookup_iff_accepts exMods exClass lower exClass_distinct]
  decide +kernel
example : ¬ Accepts exMods exClass lower "MS".toList := by
  rw [← lookup_iff_accepts exMods exClass lower exClass_distinct]
  decide +kernel
/-- the hypotheses of `accept_closed` are jointly satisfiable -/
example : check exMods [exClass] lower true "3 MilliSeconds".toList = [] := by
  have split : "3 MilliSeconds".toList = "3".toList ++ ' ' :: "MilliSeconds".toList := by decide +kernel
  rw [split]
  exact (accept_closed exMods [] [] exClass lower true exClass_distinct 0
    ⟨"second".toList, false, true, false, some ⟨1, 0⟩, "seconds".toList⟩ rfl rfl
    "seconds".toList (by decide +kernel) (some ⟨"milli".toList, false, true, ⟨1, -3⟩⟩)
    (by rintro m ⟨⟩; exact List.mem_singleton.mpr rfl)
    "MilliSeconds".toList (by decide +kernel) (by decide +kernel) "3".toList ⟨3, 0⟩ (by decide +kernel)
    (by decide +kernel) (fun _ h => nomatch h)).2.1
example : Dec.toRat (Dec.mul ⟨35, -1⟩ (Dec.mul ⟨1, 0⟩ ⟨1, -3⟩)) = 7 / 2000 := by decide +kernel


/-- is the derived entry one of a `unitPrefix` unit of the class (the guard of the second match
attempt of `_get_tag_units_portion`) -/
def isPreD (c : UnitClass) (d : Derived) : Bool := (c.units[d.unit]?.map (·.isPrefix)).getD false

theorem go_unit_first (mods : List Modifier) (fold : Str → Str) (value units : Str)
    (cs : List UnitClass) (ci : Nat) (hnu : ∀ c ∈ cs, lookupClass mods c fold units = none) :
    (unitsPortion.go mods fold value units ci cs).isSome = true ↔
      ∃ c ∈ cs, ∃ d, lookupClass mods c fold value = some d ∧ isPreD c d = true := by
  induction cs generalizing ci with
  | nil => simp [unitsPortion.go]
  | cons c cs ih =>
    simp only [List.mem_cons, exists_eq_or_imp, unitsPortion.go, hnu c (.head _),
      ← ih (ci + 1) fun c' hc' => hnu c' (.tail _ hc')]
    cases hl : lookupClass mods c fold value with
    | none => simp
    | some d2 =>
      have unfolded : (c.units[d2.unit]?.map (·.isPrefix)).getD false = isPreD c d2 := rfl
      cases hp : isPreD c d2 <;> simp [unfolded, hp]

/-- **Unit first: accepted iff it is a prefix-type unit.** A text `σ n` is split exactly when `σ` spells a
unit carrying `unitPrefix`; any other unit written first, also one accepted after the number, gets
UNITS_INVALID and no converted value. -/
theorem unit_first_only_prefix_units (mods : List Modifier) (classes : List UnitClass)
    (fold : Str → Str) (numeric : Bool) (σ n : Str) (hc : classes ≠ []) (hnb : ' ' ∉ n)
    (hnne : n ≠ []) (hσne : σ ≠ [])
    (hnu : ∀ c ∈ classes, lookupClass mods c fold n = none) :
    ((unitsPortion mods classes fold (σ ++ ' ' :: n)).isSome = true ↔
      ∃ c ∈ classes, ∃ d, lookupClass mods c fold σ = some d ∧ isPreD c d = true) ∧
    ((¬ ∃ c ∈ classes, ∃ d, lookupClass mods c fold σ = some d ∧ isPreD c d = true) →
      Issue.unitsInvalid ∈ check mods classes fold numeric (σ ++ ' ' :: n) ∧
      valueAsDefault mods classes fold (σ ++ ' ' :: n) = .absent) := by
  have hiff : (unitsPortion mods classes fold (σ ++ ' ' :: n)).isSome = true ↔
      ∃ c ∈ classes, ∃ d, lookupClass mods c fold σ = some d ∧ isPreD c d = true := by
    rw [unitsPortion_blank _ _ _ _ _ hnb, if_neg (by simpa using hnne)]
    exact go_unit_first mods fold σ n classes 0 hnu
  refine ⟨hiff, fun hno => ?_⟩
  apply unrecognised_unit mods classes fold numeric _ hc (by simp)
  · exact Option.not_isSome_iff_eq_none.mp (mt hiff.mp hno)
  · rw [rpartition_append σ n hnb]
    exact hσne

/-- non-vacuity: `$ 100` (prefix-type unit) is accepted and converted; `ms 3` is rejected although
`3 ms` is accepted; `$` after the number is not accepted -/
def exCurrency : UnitClass :=
  ⟨"currencyUnits".toList, [⟨"dollar".toList, false, false, false, some ⟨1, 0⟩, "dollars".toList⟩,
                            ⟨"$".toList, true, false, true, some ⟨1, 0⟩, []⟩], some "$".toList⟩
example : check [] [exCurrency] lower true "$ 100".toList = [] := by decide +kernel
example : valueAsDefault [] [exCurrency] lower "$ 100".toList = .value ⟨100, 0⟩ := by decide +kernel
example : check [] [exCurrency] lower true "100 $".toList = [.unitsInvalid] := by decide +kernel
example : Issue.unitsInvalid ∈ check [] [exCurrency] lower true "dollars 100".toList := by decide +kernel
example : Issue.unitsInvalid ∈ check exMods [exClass] lower true "ms 3".toList := by decide +kernel
example : valueAsDefault exMods [exClass] lower "ms 3".toList = .absent := by decide +kernel
example : check exMods [exClass] lower true "3 ms".toList = [] := by decide +kernel
example : (unitsPortion [] [exCurrency] lower "$ 100".toList).isSome = true := by decide +kernel
example : (unitsPortion exMods [exClass] lower "ms 3".toList).isSome = false := by decide +kernel
end HedVerif.C11
