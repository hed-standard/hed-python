/-
C16, closed mode — dataset validation as a closed Lean function (Model/ClosedDataset.lean).

`validateDatasetClosed env kB F tree excl types cfw` : participating files by `Bids.load`, the sidecar of each file by
`Bids.mergeImpl`, sidecar issues by `SidecarV.validateClosedD`, file issues by `Tabular.validateClosed` (both with the
C01 string-validator model inside), concatenated sidecars first in discovery order, each issue labelled with its file.
-/
import HedVerif.Model.ClosedDataset
import HedVerif.Model.ClosedDatasetRaw
import HedVerif.Props.C16
import HedVerif.Props.Closed

namespace HedVerif.C16
open HedVerif HedVerif.Bids

theorem seqE_single {ε β : Type} (x : Except ε (List β)) : seqE [x] = x := by
  cases x <;> simp [seqE]

theorem tagE_ok {β γ ε ε' : Type} (f : β → γ) (h : ε → ε') (x : Except ε (List β)) (hx : ∃ l, x = .ok l) :
    ∃ l, tagE f h x = .ok l := by
  obtain ⟨l, rfl⟩ := hx; exact ⟨_, rfl⟩

theorem seqE_ok {ε β : Type} (xs : List (Except ε (List β))) (h : ∀ x ∈ xs, ∃ l, x = .ok l) :
    ∃ l, seqE xs = .ok l := by
  induction xs with
  | nil => exact ⟨[], rfl⟩
  | cons x r ih =>
    obtain ⟨l, rfl⟩ := h x (List.mem_cons_self ..)
    obtain ⟨l', hl'⟩ := ih (fun y hy => h y (List.mem_cons_of_mem _ hy))
    exact ⟨l ++ l', by simp [seqE, hl']⟩

theorem seqE_mem {ε β : Type} (xs : List (Except ε (List β))) (l : List β) (h : seqE xs = .ok l) :
    ∀ i ∈ l, ∃ x ∈ xs, ∃ lx, x = .ok lx ∧ i ∈ lx := by
  fun_induction seqE xs generalizing l with
  | case1 => cases h; intro i hi; cases hi
  | case2 => cases h
  | case3 => cases h
  | case4 lx r l' hr ih =>
    cases h
    intro i hi
    rcases List.mem_append.mp hi with hi | hi
    · exact ⟨_, List.mem_cons_self, lx, rfl, hi⟩
    · obtain ⟨x, hx, lx', hxe, hix⟩ := ih l' hr i hi
      exact ⟨x, List.mem_cons_of_mem _ hx, lx', hxe, hix⟩

theorem tagE_mem {β γ ε ε' : Type} (f : β → γ) (h : ε → ε') (x : Except ε (List β)) (l : List γ)
    (hx : tagE f h x = .ok l) : ∀ i ∈ l, ∃ b, i = f b := by
  cases x with
  | error e => cases hx
  | ok lx =>
    cases hx
    intro i hi; obtain ⟨b, _, rfl⟩ := List.mem_map.mp hi; exact ⟨b, rfl⟩

theorem closed_is_instance (env : Validate.Env) (kB : Tabular.RIssue) (F : Frames) (g : Group SJson) :
    validateGroupClosed env kB F g = groupValidate (closedOracles env kB F) g := by
  unfold validateGroupClosed groupValidate
  rfl

theorem datasetClosed_is_instance (env : Validate.Env) (kB : Tabular.RIssue) (F : Frames) (t : Tree SJson)
    (excl types : List Str) (cfw : Bool) :
    validateDatasetClosed env kB F t excl types cfw = datasetValidate (closedOracles env kB F) t excl types cfw := by
  have h : validateGroupClosed env kB F = groupValidate (closedOracles env kB F) :=
    funext (closed_is_instance env kB F)
  unfold validateDatasetClosed datasetValidate
  rw [h]
  rfl

/-- the sidecar the property gives a file: the merge of every applicable sidecar on its path, or none -/
def specSidecar (g : Group SJson) (d : PFile SJson) : Option (Columns SJson) :=
  if (specChain g d).isEmpty then none else some (mergeSpec g d)

theorem sidecarOracleFor_validate (env : Validate.Env) (m : Columns SJson) :
    SidecarV.validate .fixed (sidecarOracleFor env m) (.obj m) = SidecarV.validateClosedD env .fixed (.obj m) := by
  unfold SidecarV.validateClosedD SidecarV.validateD sidecarOracleFor
  simp only [C08.extractDefsDoc_eq]

theorem sidecarClosed_eq_closedD (env : Validate.Env) (g : Group SJson) (s : PFile SJson)
    (h : loadIssueCount g s = 0) :
    sidecarClosed env g s = SidecarV.validateClosedD env .fixed (.obj (mergeImpl g s)) := by
  unfold sidecarClosed
  rw [h, List.replicate_zero, ← validate_obj, sidecarOracleFor_validate]

/-- in a group whose objects are `WellFormed` and whose sidecars are JSON objects, the issue list is — sidecars first,
then events files, in discovery order, each issue labelled with its file — `validateClosedD` on each sidecar's
`mergeSpec` document and the closed file pipeline on each file with its `mergeSpec` sidecar, in the environment of that
sidecar's definitions (`fileEnv`); the first step that raises ends the run -/
theorem dataset_closed_is_union (env : Validate.Env) (kB : Tabular.RIssue) (F : Frames) (g : Group SJson)
    (hW : ∀ o ∈ g.sidecars ++ g.datafiles, WellFormed g o) (hobj : ∀ s ∈ g.sidecars, s.obj = true) :
    validateGroupClosed env kB F g =
      seqE ((g.sidecars.map fun s =>
              tagE (DIssue.sidecar s.path) (DExn.sidecar s.path)
                (SidecarV.validateClosedD env .fixed (.obj (mergeSpec g s)))) ++
            (g.datafiles.map fun d =>
              tagE (DIssue.table d.path) (DExn.table d.path)
                (Tabular.validateClosed (fileEnv env (specSidecar g d)) kB
                  (F d (specSidecar g d)).1 (F d (specSidecar g d)).2))) := by
  rw [closed_is_instance, dataset_validate_eq _ g (fun o ho => (hW o ho).toFiles) hobj]
  refine congrArg seqE (congr (congrArg _ (List.map_congr_left fun s hs => ?_)) (List.map_congr_left fun d hd => ?_))
  · rw [mergeChosen_eq_mergeSpec g s (hW s (List.mem_append_left _ hs)).unique]
    show tagE _ _ (SidecarV.validate .fixed (sidecarOracleFor env (mergeSpec g s)) (.obj (mergeSpec g s))) = _
    rw [sidecarOracleFor_validate]
  · have hu := (hW d (List.mem_append_right _ hd)).unique
    simp only [chosenChain_eq_specChain g d hu]
    rfl

/-- a dataset with one tabular type is its one group, filtered by `check_for_warnings` (to be combined with
`dataset_closed_is_union`) -/
theorem dataset_closed_is_union_tree (env : Validate.Env) (kB : Tabular.RIssue) (F : Frames) (D : Dir SJson)
    (excl : List Str) (sfx : Str) (cfw : Bool) (g : Group SJson) (hL : IsListing D.listing)
    (hload : load D.listing excl sfx = .ok g)
    (hu : ∀ o ∈ g.sidecars ++ g.datafiles, ∀ d ∈ inits o.dir,
      (g.sidecars.filter (fun s => s.dir == d && specApplies s o)).length ≤ 1)
    (hobj : ∀ s ∈ g.sidecars, s.obj = true) :
    validateDatasetClosed env kB F D.listing excl [sfx] cfw =
      match validateGroupClosed env kB F g with
      | .error e => .error (.validation e)
      | .ok l => .ok (filterSev cfw l) := by
  unfold validateDatasetClosed
  simp only [loadAll, hload, List.map_cons, List.map_nil, seqE_single]
  -- `hL`, `hu`, `hobj` are not needed for this step: they are what `load_files` and `dataset_closed_is_union` ask for
  have _ := hL; have _ := hu; have _ := hobj
  rfl

theorem sidecarClosed_total (env : Validate.Env) (g : Group SJson) (s : PFile SJson) :
    ∃ l, sidecarClosed env g s = .ok l := by
  unfold sidecarClosed
  generalize loadIssueCount g s = n
  cases n with
  | zero =>
    rw [List.replicate_zero, ← validate_obj]
    exact C08.total _ _
  | succ k =>
    -- a load issue is an error: `validateLoaded` returns at its `anyError` test, before anything that could raise
    unfold validateLoaded
    simp only [C08.structure_eq, C08.columnData_eq, C08.refIssues_eq _ (C08.good_cols _)]
    have he : SidecarV.anyError (C08.structureP (List.replicate (k + 1) wrongTop) (mergeImpl g s) ++
        C08.refIssuesP (C08.colsP (mergeImpl g s))) = true := by
      simp [SidecarV.anyError, C08.structureP, List.replicate_succ, wrongTop, C08.mk_isError]
    rw [if_pos he]
    exact ⟨_, rfl⟩

theorem group_closed_total (env : Validate.Env) (kB : Tabular.RIssue) (F : Frames) (g : Group SJson)
    (hF : ∀ d sc, (F d sc).1.maskByRow = true ∧ (F d sc).1.guardDelay = true) :
    ∃ l, validateGroupClosed env kB F g = .ok l := by
  unfold validateGroupClosed
  refine seqE_ok _ (List.forall_mem_append.mpr
    ⟨List.forall_mem_map.mpr fun s _ => ?_, List.forall_mem_map.mpr fun d _ => ?_⟩)
  · exact tagE_ok _ _ _ (sidecarClosed_total env g s)
  · refine tagE_ok _ _ _ ?_
    unfold tableClosed
    exact C07.total_closed (fileEnv env (sidecarOf g d)) kB _ _ (hF d _).1 (hF d _).2

/-- when the participating file names parse, with frames of the repaired file layer, closed dataset validation
returns a list of issues: no sidecar content (non-objects included), table content, schema environment or inheritance
pattern makes it raise -/
theorem dataset_closed_total (env : Validate.Env) (kB : Tabular.RIssue) (F : Frames) (t : Tree SJson)
    (excl types : List Str) (cfw : Bool) (gs : List (Group SJson)) (hparse : loadAll t excl types = .ok gs)
    (hF : ∀ d sc, (F d sc).1.maskByRow = true ∧ (F d sc).1.guardDelay = true) :
    ∃ l, validateDatasetClosed env kB F t excl types cfw = .ok l := by
  unfold validateDatasetClosed
  rw [hparse]
  obtain ⟨l, hl⟩ := seqE_ok (gs.map (validateGroupClosed env kB F))
    (List.forall_mem_map.mpr fun g _ => group_closed_total env kB F g hF)
  exact ⟨filterSev cfw l, by simp only [hl]⟩

/-- when building the groups raises (`load_error_iff`: a participating name does not parse), the run raises that
`HedFileError` -/
theorem dataset_closed_fileError (env : Validate.Env) (kB : Tabular.RIssue) (F : Frames) (t : Tree SJson)
    (excl types : List Str) (cfw : Bool) (e : PErr) (hparse : loadAll t excl types = .error e) :
    validateDatasetClosed env kB F t excl types cfw = .error (.fileError e) := by
  unfold validateDatasetClosed; rw [hparse]

theorem group_issue_file (env : Validate.Env) (kB : Tabular.RIssue) (F : Frames) (g : Group SJson) (l : List DIssue)
    (h : validateGroupClosed env kB F g = .ok l) :
    ∀ i ∈ l, (∃ s ∈ g.sidecars, s.path = i.file) ∨ (∃ d ∈ g.datafiles, d.path = i.file) := by
  intro i hi
  obtain ⟨x, hx, lx, hxe, hix⟩ := seqE_mem _ l h i hi
  rcases List.mem_append.mp hx with hx | hx
  · obtain ⟨s, hs, rfl⟩ := List.mem_map.mp hx
    obtain ⟨b, rfl⟩ := tagE_mem _ _ _ lx hxe i hix
    exact Or.inl ⟨s, hs, rfl⟩
  · obtain ⟨d, hd, rfl⟩ := List.mem_map.mp hx
    obtain ⟨b, rfl⟩ := tagE_mem _ _ _ lx hxe i hix
    exact Or.inr ⟨d, hd, rfl⟩

/-- no issue carries the name of a non-participating file: the file of every issue is an entry of the tree none of
whose directory components is an excluded name and whose name has the suffix and the `.json` / `.tsv` extension -/
theorem excluded_files_silent (env : Validate.Env) (kB : Tabular.RIssue) (F : Frames) (t : Tree SJson)
    (excl : List Str) (sfx : Str) (g : Group SJson) (l : List DIssue) (hload : load t excl sfx = .ok g)
    (h : validateGroupClosed env kB F g = .ok l) :
    ∀ i ∈ l, (∃ e ∈ t, e.1 = i.file) ∧ participates excl i.file ∧
      (checkName (i.file.getLastD []) sfx jsonExt = true ∨ checkName (i.file.getLastD []) sfx tsvExt = true) := by
  intro i hi
  have hp := load_participation t excl sfx g hload i.file
  rcases group_issue_file env kB F g l h i hi with hs | hd
  · obtain ⟨h1, h2, h3⟩ := hp.1.mp hs; exact ⟨h1, h2, Or.inl h3⟩
  · obtain ⟨h1, h2, h3⟩ := hp.2.mp hd; exact ⟨h1, h2, Or.inr h3⟩

theorem applies_meta (s s' o : PFile α) (hp : s'.path = s.path) (hs : s'.suffix = s.suffix) (he : s'.ents = s.ents) :
    applies s' o = applies s o := by
  unfold applies PFile.dir
  rw [hp, hs, he]

theorem chain_map (g : Group α) (o : PFile α) (f : PFile α → PFile α)
    (hm : ∀ s, (f s).path = s.path ∧ (f s).suffix = s.suffix ∧ (f s).ents = s.ents) :
    chain ⟨g.sidecars.map f, g.datafiles⟩ o = (chain g o).map f := by
  unfold chain
  rw [List.map_filterMap]
  apply filterMap_congr'
  intro d _
  have h1 : (fun s : PFile α => s.dir == d) ∘ f = fun s => s.dir == d :=
    funext fun s => by simp [PFile.dir, (hm s).1]
  have h2 : (fun s => applies s o) ∘ f = fun s => applies s o :=
    funext fun s => applies_meta s (f s) o (hm s).1 (hm s).2.1 (hm s).2.2
  unfold chainAt dirSidecars
  rw [List.filter_map, List.find?_map, h1, h2]

/-- frame property: an edit `f` of the sidecars that keeps their names and leaves the chain of `o` untouched does not
change the chain, the merged sidecar or the closed issues of `o`: a sidecar that a file does not inherit cannot
change how the file is judged -/
theorem file_judged_with_merged_sidecar_closed (env : Validate.Env) (kB : Tabular.RIssue) (F : Frames)
    (g : Group SJson) (o : PFile SJson) (f : PFile SJson → PFile SJson)
    (hm : ∀ s, (f s).path = s.path ∧ (f s).suffix = s.suffix ∧ (f s).ents = s.ents)
    (hfix : ∀ s ∈ chain g o, f s = s) :
    chain ⟨g.sidecars.map f, g.datafiles⟩ o = chain g o ∧
    mergeImpl ⟨g.sidecars.map f, g.datafiles⟩ o = mergeImpl g o ∧
    tableClosed env kB F ⟨g.sidecars.map f, g.datafiles⟩ o = tableClosed env kB F g o ∧
    sidecarClosed env ⟨g.sidecars.map f, g.datafiles⟩ o = sidecarClosed env g o := by
  have hc : chain ⟨g.sidecars.map f, g.datafiles⟩ o = chain g o := by
    rw [chain_map g o f hm]
    exact (List.map_congr_left hfix).trans (List.map_id' _)
  refine ⟨hc, ?_, ?_, ?_⟩
  · unfold mergeImpl; rw [hc]
  · unfold tableClosed sidecarOf hasSidecar mergeImpl; rw [hc]
  · unfold sidecarClosed loadIssueCount mergeImpl; rw [hc]

/-! ## a two-subject dataset through the closed pipeline (tiny schema of `Props/C01.lean`) -/

section Example
private def evJson : Str := ['_','e','v','e','n','t','s','.','j','s','o','n']
private def evTsv : Str := ['_','e','v','e','n','t','s','.','t','s','v']
private def sub (n : Char) : Str := ['s','u','b','-','0', n]
private def taskA : Str := ['t','a','s','k','-','A']
private def colA : Str := ['a']
private def keyX : Str := ['x']

private def entry (s : Str) : SJson := .obj [(SidecarV.HED, .obj [(keyX, .str s)])]

/-- root `events.json` {a: {HED: {x: "Red"}}}; `sub-01/sub-01_events.json` {a: {HED: {x: "Zz"}}} (overrides column
`a` for subject 1 with an unknown tag); one events file per subject -/
def exDataset : Tree SJson :=
  [ ([['e','v','e','n','t','s','.','j','s','o','n']], some [(colA, entry ['R','e','d'])]),
    ([sub '1', sub '1' ++ evJson], some [(colA, entry ['Z','z'])]),
    ([sub '1', sub '1' ++ '_' :: taskA ++ evTsv], none),
    ([sub '2', sub '2' ++ '_' :: taskA ++ evTsv], none) ]

/-- a one-row, one-column presentation of an events file whose column `a` holds `x`: the cell is the `x` entry of
column `a` of the merged sidecar (what the categorical transform of the assembly yields) -/
def exFrames : Frames := fun _ sc =>
  let cell : Str := match sc.bind (getCol colA) with
    | some (.obj [(_, .obj [(_, .str s)])]) => s
    | _ => SidecarV.NA
  ({ C07.closedCfg with columns := [colA] }, [⟨none, [cell], []⟩])

/-- subject 1 is judged with the overriding sidecar: its events file
and its sidecar report the unknown tag; subject 2 inherits only the root sidecar and is clean; the root sidecar is
clean -/
theorem two_subject_example_closed :
    (validateDatasetClosed C01.Tiny.env ⟨['B'], 1⟩ exFrames exDataset [] [['e','v','e','n','t','s']] false).toOption =
    some [ .sidecar [sub '1', sub '1' ++ evJson] ⟨[], Validate.Kind.noValidTag.code, 1, some colA, none⟩,
           .table [sub '1', sub '1' ++ '_' :: taskA ++ evTsv]
             ⟨C07.kindOf .noValidTag, 1, some 2, some colA, ['Z','z'], .cell 0 0⟩ ] := by
  decide +kernel
end Example

/-! ## raw closed mode: the frames are computed from the tables (`Model/ClosedDatasetRaw.lean`) -/

theorem raw_table_step (env : Validate.Env) (k : Raw.Consts) (tables : Path → Assemble.Table) (g : Group SJson)
    (d : PFile SJson) :
    tableClosed env k.kBanned (rawFrames k tables) g d =
      Tabular.validateClosedRawD env k (toJs ((sidecarOf g d).getD [])) (tables d.path) := rfl

/-- `dataset_closed_is_union` from the tree alone: the file part is `Tabular.validateClosedRawD` (C06 ∘ C07 ∘ C01) on
each file's raw table with its `mergeSpec` sidecar, whose definitions the rows see first (the empty sidecar if none
applies) -/
theorem dataset_closed_raw_is_union (env : Validate.Env) (k : Raw.Consts) (tables : Path → Assemble.Table)
    (g : Group SJson) (hW : ∀ o ∈ g.sidecars ++ g.datafiles, WellFormed g o) (hobj : ∀ s ∈ g.sidecars, s.obj = true) :
    validateGroupClosedRaw env k tables g =
      seqE ((g.sidecars.map fun s =>
              tagE (DIssue.sidecar s.path) (DExn.sidecar s.path)
                (SidecarV.validateClosedD env .fixed (.obj (mergeSpec g s)))) ++
            (g.datafiles.map fun d =>
              tagE (DIssue.table d.path) (DExn.table d.path)
                (Tabular.validateClosedRawD env k (toJs ((specSidecar g d).getD [])) (tables d.path)))) := by
  unfold validateGroupClosedRaw
  rw [dataset_closed_is_union env k.kBanned (rawFrames k tables) g hW hobj]
  rfl

theorem dataset_closed_raw_is_union_tree (env : Validate.Env) (k : Raw.Consts) (t : RawTree) (excl : List Str)
    (sfx : Str) (cfw : Bool) (g : Group SJson) (hload : load t.listing excl sfx = .ok g) :
    validateDatasetClosedRaw env k t excl [sfx] cfw =
      match validateGroupClosedRaw env k t.table g with
      | .error e => .error (.validation e)
      | .ok l => .ok (filterSev cfw l) := by
  unfold validateDatasetClosedRaw validateDatasetClosed validateGroupClosedRaw
  simp only [loadAll, hload, List.map_cons, List.map_nil, seqE_single]
  rfl

/-- `dataset_closed_total` from the tree alone: whatever the tables' cells, headers and onsets -/
theorem dataset_closed_raw_total (env : Validate.Env) (k : Raw.Consts) (t : RawTree) (excl types : List Str)
    (cfw : Bool) (gs : List (Group SJson)) (hparse : loadAll t.listing excl types = .ok gs)
    (hm : k.maskByRow = true) (hg : k.guardDelay = true) :
    ∃ l, validateDatasetClosedRaw env k t excl types cfw = .ok l :=
  dataset_closed_total env k.kBanned (rawFrames k t.table) t.listing excl types cfw gs hparse
    (fun _ _ => ⟨hm, hg⟩)

theorem excluded_files_silent_raw (env : Validate.Env) (k : Raw.Consts) (tables : Path → Assemble.Table)
    (D : Dir SJson) (excl : List Str) (sfx : Str) (g : Group SJson) (l : List DIssue)
    (hload : load D.listing excl sfx = .ok g) (h : validateGroupClosedRaw env k tables g = .ok l) :
    ∀ i ∈ l, (∃ e ∈ D.listing, e.1 = i.file) ∧ participates excl i.file ∧
      (checkName (i.file.getLastD []) sfx jsonExt = true ∨ checkName (i.file.getLastD []) sfx tsvExt = true) :=
  excluded_files_silent env k.kBanned (rawFrames k tables) D.listing excl sfx g l hload h

/-- the frame property from the tree alone: the tables of all *other* events files may change too -/
theorem file_judged_with_merged_sidecar_closed_raw (env : Validate.Env) (k : Raw.Consts)
    (tables tables' : Path → Assemble.Table) (g : Group SJson) (o : PFile SJson) (f : PFile SJson → PFile SJson)
    (hm : ∀ s, (f s).path = s.path ∧ (f s).suffix = s.suffix ∧ (f s).ents = s.ents)
    (hfix : ∀ s ∈ chain g o, f s = s) (hown : tables' o.path = tables o.path) :
    mergeImpl ⟨g.sidecars.map f, g.datafiles⟩ o = mergeImpl g o ∧
    tableClosed env k.kBanned (rawFrames k tables') ⟨g.sidecars.map f, g.datafiles⟩ o =
      tableClosed env k.kBanned (rawFrames k tables) g o ∧
    sidecarClosed env ⟨g.sidecars.map f, g.datafiles⟩ o = sidecarClosed env g o := by
  obtain ⟨_, h2, h3, h4⟩ := file_judged_with_merged_sidecar_closed env k.kBanned (rawFrames k tables') g o f hm hfix
  refine ⟨h2, ?_, h4⟩
  rw [h3]
  unfold tableClosed rawFrames
  rw [hown]

/-- reading a file: a cell is either kept as text or becomes `"n/a"`; reading twice changes nothing; the header
is not touched -/
theorem readCell_spec (c : Str) :
    (readCell c = c ∨ readCell c = Assemble.NA) ∧ readCell (readCell c) = readCell c ∧
    (readCell c ≠ c → c ∈ Generated.C16.fileNaValues) := by
  have hna : readCell Assemble.NA = Assemble.NA := by decide
  by_cases h : Generated.C16.fileNaValues.contains c = true
  · have hc : readCell c = Assemble.NA := by unfold readCell; rw [if_pos h]
    refine ⟨Or.inr hc, by rw [hc, hna], fun _ => by simpa using h⟩
  · have hc : readCell c = c := by unfold readCell; rw [if_neg h]
    exact ⟨Or.inl hc, by rw [hc, hc], fun hne => absurd hc hne⟩

theorem readTable_header (tb : Assemble.Table) : (readTable tb).header = tb.header := rfl

section ExampleRaw
private def evJson' : Str := ['_','e','v','e','n','t','s','.','j','s','o','n']
private def evTsv' : Str := ['_','e','v','e','n','t','s','.','t','s','v']
private def sub' (n : Char) : Str := ['s','u','b','-','0', n]
private def taskA' : Str := ['t','a','s','k','-','A']
private def entry' (s : Str) : SJson := .obj [(SidecarV.HED, .obj [(['x'], .str s)])]

def exConsts : Raw.Consts :=
  ⟨true, true, ⟨['K'], 10⟩, ⟨['F'], 1⟩, ⟨['U'], 10⟩, ⟨['N'], 10⟩, ⟨['B'], 1⟩, fun _ => ⟨['T'], 1⟩⟩

/-- the two-subject dataset with its raw events tables: column `a` holds the key `x` in both files; subject 2's file
also has a column `extra` that no sidecar describes -/
def exRawDataset : RawTree :=
  [ ([['e','v','e','n','t','s','.','j','s','o','n']], .json (some [(['a'], entry' ['R','e','d'])])),
    ([sub' '1', sub' '1' ++ evJson'], .json (some [(['a'], entry' ['Z','z'])])),
    ([sub' '1', sub' '1' ++ '_' :: taskA' ++ evTsv'], .tsv ⟨[['a']], [[['x']]]⟩),
    ([sub' '2', sub' '2' ++ '_' :: taskA' ++ evTsv'], .tsv ⟨[['a'], ['e','x','t','r','a']], [[['x'], ['q']]]⟩) ]

/-- from the JSON and the raw cells alone: subject 1 is judged with
the overriding sidecar (unknown tag `Zz` in its sidecar and, through the categorical column `a`, in row 2 of its
events file); subject 2 inherits the root sidecar only: its one issue is the warning for the column `extra` that no
sidecar describes, which disappears without `check_for_warnings` -/
theorem two_subject_example_closed_raw :
    (validateDatasetClosedRaw C01.Tiny.env exConsts exRawDataset [] [['e','v','e','n','t','s']] true).toOption =
    some [ .sidecar [sub' '1', sub' '1' ++ evJson'] ⟨[], Validate.Kind.noValidTag.code, 1, some ['a'], none⟩,
           .table [sub' '1', sub' '1' ++ '_' :: taskA' ++ evTsv']
             ⟨C07.kindOf .noValidTag, 1, some 2, some ['a'], ['Z','z'], .cell 0 0⟩,
           .table [sub' '2', sub' '2' ++ '_' :: taskA' ++ evTsv'] ⟨['N'], 10, none, none, [], .mapping⟩ ] ∧
    ((validateDatasetClosedRaw C01.Tiny.env exConsts exRawDataset [] [['e','v','e','n','t','s']] false).toOption.map
      List.length) = some 2 := by
  decide +kernel

private def defEntry (s : Str) : SJson := .obj [(SidecarV.HED, .obj [(['d','1'], .str s)])]
private def useTable : Assemble.Table := ⟨[Assemble.HEDNAME], [[['D','e','f','/','M','k','/','x']]]⟩

/-- the root sidecar declares `Mk/#` ↦ `(Label/#)` in column `d`; subject 1's own sidecar overrides column `d`
(no definition any more); both events files use `Def/Mk/x` in their HED column -/
def exDefDataset : RawTree :=
  [ ([['e','v','e','n','t','s','.','j','s','o','n']],
      .json (some [(['d'], defEntry ['(','D','e','f','i','n','i','t','i','o','n','/','M','k','/','#',',',' ','(','L','a','b','e','l','/','#',')',')'])])),
    ([sub' '1', sub' '1' ++ evJson'], .json (some [(['d'], defEntry ['R','e','d'])])),
    ([sub' '1', sub' '1' ++ '_' :: taskA' ++ evTsv'], .tsv useTable),
    ([sub' '2', sub' '2' ++ '_' :: taskA' ++ evTsv'], .tsv useTable) ]

/-- a definition is inherited like any other column: subject 2's
rows see the root sidecar's `Mk/#` and `Def/Mk/x` is accepted; subject 1's merged sidecar lost it by the per-column
override, so the same cell is an unmatched `Def` in row 2 of its file -/
theorem inherited_definition_example_closed_raw :
    (validateDatasetClosedRaw C01.Tiny.env exConsts exDefDataset [] [['e','v','e','n','t','s']] false).toOption =
    some [ .table [sub' '1', sub' '1' ++ '_' :: taskA' ++ evTsv']
             ⟨C07.kindOf .defUnmatched, 1, some 2, some Assemble.HEDNAME, ['D','e','f','/','M','k','/','x'], .cell 0 0⟩ ] := by
  decide +kernel
end ExampleRaw

end HedVerif.C16
