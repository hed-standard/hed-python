/-
C12 — the context stack of `ErrorHandler` and the printable grouping of issues.
-/
import HedVerif.Model.Issue

namespace HedVerif.Issue

theorem getKey_cons (x : Str × Val) (d : List (Str × Val)) (k : Str) :
    getKey (x :: d) k = if x.1 == k then some x.2 else getKey d k := by
  unfold getKey
  rw [List.find?_cons]
  cases x.1 == k <;> rfl

theorem getKey_append (d e : List (Str × Val)) (k : Str) : getKey (d ++ e) k = (getKey d k).or (getKey e k) := by
  unfold getKey
  rw [List.find?_append, Option.map_or]

theorem getKey_map_set (d : List (Str × Val)) (k k' : Str) (v : Val) :
    getKey (d.map fun kv => if kv.1 == k then (k, v) else kv) k' =
      (getKey d k').map fun w => if k' == k then v else w := by
  have hp : ((fun kv : Str × Val => kv.1 == k') ∘ fun kv => if kv.1 == k then (k, v) else kv) =
      fun kv => kv.1 == k' := by
    funext kv
    show ((if kv.1 == k then (k, v) else kv).1 == k') = (kv.1 == k')
    split
    · rename_i h; rw [eq_of_beq h]
    · rfl
  unfold getKey
  rw [List.find?_map, hp, Option.map_map, Option.map_map]
  apply Option.map_congr
  intro x hx
  have : x.1 = k' := eq_of_beq (List.find?_some (p := fun kv : Str × Val => kv.1 == k') hx)
  subst this
  exact apply_ite Prod.snd _ _ _

theorem getKey_isSome (d : List (Str × Val)) (k : Str) : (getKey d k).isSome = d.any (·.1 == k) := by
  rw [getKey, Option.isSome_map, Bool.eq_iff_iff, List.find?_isSome, List.any_eq_true]

/-- `d[k] = v; d.get(k')` -/
theorem getKey_setKey (d : List (Str × Val)) (k k' : Str) (v : Val) :
    getKey (setKey d k v) k' = if k' == k then some v else getKey d k' := by
  unfold setKey
  rw [← getKey_isSome]
  cases hg : getKey d k with
  | some w =>
    rw [Option.isSome_some, if_pos rfl, getKey_map_set]
    split
    · rename_i hk
      rw [eq_of_beq hk, hg]
      rfl
    · exact Option.map_id'
  | none =>
    rw [Option.isSome_none, if_neg Bool.false_ne_true, getKey_append, getKey_cons, BEq.comm (a := k)]
    split
    · rename_i hk
      rw [eq_of_beq hk, hg]
      rfl
    · exact Option.or_none

/-- the innermost value the stack holds for a context type -/
def lastVal (st : Stack) (k : Str) : Option Val := getKey st.reverse k

theorem lastVal_cons (x : Str × Val) (st : Stack) (k : Str) :
    lastVal (x :: st) k = (lastVal st k).or (if k == x.1 then some x.2 else none) := by
  unfold lastVal
  rw [List.reverse_cons, getKey_append, getKey_cons, BEq.comm (a := k)]
  rfl

theorem getKey_foldl (st : Stack) (d : List (Str × Val)) (k : Str) :
    getKey (st.foldl (fun acc kv => setKey acc kv.1 kv.2) d) k = (lastVal st k).or (getKey d k) := by
  induction st generalizing d with
  | nil => exact (Option.none_or).symm
  | cons x xs ih =>
    rw [List.foldl_cons, ih, getKey_setKey, lastVal_cons, Option.or_assoc]
    split <;> rfl

theorem updateCharPos_eq (hs : Bool) (i : Issue) :
    updateCharPos hs i = i ∨ ∃ c, updateCharPos hs i =
      { i with charIdx := some c, suffixes := if i.charIdx.isNone then i.suffixes + 1 else i.suffixes } := by
  unfold updateCharPos
  split
  · exact Or.inl rfl
  · split
    · exact Or.inl rfl
    · exact Or.inr ⟨_, rfl⟩

theorem updateCharPos_ctx (hs : Bool) (i : Issue) : (updateCharPos hs i).ctx = i.ctx := by
  obtain h | ⟨c, h⟩ := updateCharPos_eq hs i <;> rw [h]

theorem updateCharPos_code (hs : Bool) (i : Issue) : (updateCharPos hs i).code = i.code := by
  obtain h | ⟨c, h⟩ := updateCharPos_eq hs i <;> rw [h]

theorem updateCharPos_severity (hs : Bool) (i : Issue) : (updateCharPos hs i).severity = i.severity := by
  obtain h | ⟨c, h⟩ := updateCharPos_eq hs i <;> rw [h]

theorem run_cons (ik : List Str) (w : Bool) (s : HState) (o : Op) (os : List Op) :
    run ik w s (o :: os) = (step ik w s o).bind fun s1 => run ik w s1 os := by
  show (match step ik w s o with | none => none | some s1 => run ik w s1 os) = _
  cases step ik w s o <;> rfl

theorem step_out (ik : List Str) (w : Bool) (s s' : HState) (o : Op) (h : step ik w s o = some s') :
    s.out <+: s'.out := by
  cases o with
  | format i =>
    cases h
    exact List.prefix_append ..
  | pop =>
    obtain ⟨st, _, rfl⟩ := Option.map_eq_some_iff.mp h
    exact List.prefix_rfl
  | push k v =>
    cases h
    exact List.prefix_rfl
  | reset =>
    cases h
    exact List.prefix_rfl

theorem run_out (ik : List Str) (w : Bool) (h : List Op) (s s' : HState) (hr : run ik w s h = some s') :
    s.out <+: s'.out := by
  induction h generalizing s with
  | nil =>
    cases hr
    exact List.prefix_rfl
  | cons o os ih =>
    rw [run_cons] at hr
    obtain ⟨s1, hs1, hr⟩ := Option.bind_eq_some_iff.mp hr
    exact (step_out ik w s s1 o hs1).trans (ih s1 hr)

theorem run_append (ik : List Str) (w : Bool) (h1 h2 : List Op) (s : HState) :
    run ik w s (h1 ++ h2) = (run ik w s h1).bind fun s1 => run ik w s1 h2 := by
  induction h1 generalizing s with
  | nil => rfl
  | cons o os ih =>
    rw [List.cons_append, run_cons, run_cons, Option.bind_assoc]
    exact congrArg _ (funext ih)

theorem chain_flat (i : Issue) : ∀ p : List CKey, (chain p i).flat = [i]
  | [] => rfl
  | _ :: ks => (congrArg (· ++ []) (chain_flat i ks) :)

theorem insertSubs_cons (i : Issue) (k k' : CKey) (ks : List CKey) (t : PTree) (rest : List (CKey × PTree)) :
    insertSubs i k ks ((k', t) :: rest) =
      if k' == k then (k', t.insert i ks) :: rest else (k', t) :: insertSubs i k ks rest := rfl

mutual
theorem lines_flat : ∀ (n : Nat) (t : PTree), (t.lines n).filterMap Line.issue? = t.flat
  | n, .node ch subs => by
    show (ch.map (Line.issue n) ++ linesSubs n subs).filterMap Line.issue? = ch ++ flatSubs subs
    rw [List.filterMap_append, linesSubs_flat n subs, List.filterMap_map]
    exact congrArg (· ++ _) (List.filterMap_some ..)
theorem linesSubs_flat : ∀ (n : Nat) (subs : List (CKey × PTree)), (linesSubs n subs).filterMap Line.issue? = flatSubs subs
  | _, [] => rfl
  | n, (k, t) :: rest => by
    show (t.lines (n + 1) ++ linesSubs n rest).filterMap Line.issue? = t.flat ++ flatSubs rest
    rw [List.filterMap_append, lines_flat (n + 1) t, linesSubs_flat n rest]
end

mutual
/-- the printed issues, each with the header path of the level it is printed at (`print_groups_stable` is stated with it) -/
def PTree.flatP (pre : List CKey) : PTree → List (List CKey × Issue)
  | .node ch subs => ch.map (fun i => (pre, i)) ++ flatSubsP pre subs
def flatSubsP (pre : List CKey) : List (CKey × PTree) → List (List CKey × Issue)
  | [] => []
  | (k, t) :: rest => t.flatP (pre ++ [k]) ++ flatSubsP pre rest
end

mutual
theorem flatP_flat : ∀ (pre : List CKey) (t : PTree), (t.flatP pre).map (·.2) = t.flat
  | pre, .node ch subs => by
    show (ch.map (fun i => (pre, i)) ++ flatSubsP pre subs).map (·.2) = ch ++ flatSubs subs
    rw [List.map_append, List.map_map, flatSubsP_flat pre subs]
    exact congrArg (· ++ _) (List.map_id' ch)
theorem flatSubsP_flat : ∀ (pre : List CKey) (subs : List (CKey × PTree)), (flatSubsP pre subs).map (·.2) = flatSubs subs
  | _, [] => rfl
  | pre, (k, t) :: rest => by
    show (t.flatP (pre ++ [k]) ++ flatSubsP pre rest).map (·.2) = t.flat ++ flatSubs rest
    rw [List.map_append, flatP_flat (pre ++ [k]) t, flatSubsP_flat pre rest]
end

mutual
theorem flatP_prefix : ∀ (pre : List CKey) (t : PTree), ∀ e ∈ t.flatP pre, ∃ r, e.1 = pre ++ r
  | pre, .node ch subs => by
    intro e he
    rcases List.mem_append.mp he with he | he
    · obtain ⟨i, _, rfl⟩ := List.mem_map.mp he
      exact ⟨[], (List.append_nil pre).symm⟩
    · obtain ⟨k, r, _, h⟩ := flatSubsP_prefix pre subs e he
      exact ⟨k :: r, h⟩
theorem flatSubsP_prefix : ∀ (pre : List CKey) (subs : List (CKey × PTree)), ∀ e ∈ flatSubsP pre subs,
    ∃ k r, k ∈ subs.map (·.1) ∧ e.1 = pre ++ k :: r
  | _, [] => fun _ he => nomatch he
  | pre, (k, t) :: rest => by
    intro e he
    rcases List.mem_append.mp he with he | he
    · obtain ⟨r, h⟩ := flatP_prefix (pre ++ [k]) t e he
      exact ⟨k, r, List.mem_cons_self, h.trans (List.append_assoc pre [k] r)⟩
    · obtain ⟨k', r, hk, h⟩ := flatSubsP_prefix pre rest e he
      exact ⟨k', r, List.mem_cons_of_mem _ hk, h⟩
end

mutual
/-- sibling keys are pairwise distinct at every level, as in a `dict` -/
def PTree.wf : PTree → Bool
  | .node _ subs => wfSubs subs
def wfSubs : List (CKey × PTree) → Bool
  | [] => true
  | (k, t) :: rest => t.wf && !(rest.map (·.1)).contains k && wfSubs rest
end

theorem wfSubs_cons (k : CKey) (t : PTree) (rest : List (CKey × PTree)) :
    wfSubs ((k, t) :: rest) = true ↔ t.wf = true ∧ k ∉ rest.map (·.1) ∧ wfSubs rest = true := by
  show (t.wf && !(rest.map (·.1)).contains k && wfSubs rest) = true ↔ _
  rw [Bool.and_eq_true, Bool.and_eq_true, Bool.not_eq_true', List.contains_eq_mem, decide_eq_false_iff_not, and_assoc]

theorem chain_flatP (i : Issue) : ∀ (p pre : List CKey), (chain p i).flatP pre = [(pre ++ p, i)]
  | [], pre => congrArg (fun q => [(q, i)]) (List.append_nil pre).symm
  | k :: ks, pre => by
    show (chain ks i).flatP (pre ++ [k]) ++ [] = [(pre ++ k :: ks, i)]
    rw [chain_flatP i ks, List.append_assoc]
    rfl

theorem chain_wf (i : Issue) : ∀ p : List CKey, (chain p i).wf = true
  | [] => rfl
  | _ :: ks => (wfSubs_cons ..).mpr ⟨chain_wf i ks, List.not_mem_nil, rfl⟩

theorem insertSubs_keys (i : Issue) (k : CKey) (ks : List CKey) : ∀ subs : List (CKey × PTree),
    ∀ x ∈ (insertSubs i k ks subs).map (·.1), x = k ∨ x ∈ subs.map (·.1)
  | [] => fun _ hx => Or.inl (List.mem_singleton.mp hx)
  | (k', t) :: rest => by
    intro x hx
    rw [insertSubs_cons] at hx
    split at hx
    · exact Or.inr hx
    · rcases List.mem_cons.mp hx with h | h
      · exact Or.inr (h ▸ List.mem_cons_self)
      · exact (insertSubs_keys i k ks rest x h).imp_right (List.mem_cons_of_mem _)

/- The new issue goes to the END of its level's children; what is printed after it lies under a longer path or another
sibling key, hence (keys distinct) under another path. -/
mutual
theorem insert_flatP (i : Issue) : ∀ (p pre : List CKey) (t : PTree),
    ∃ a b, t.flatP pre = a ++ b ∧ (t.insert i p).flatP pre = a ++ (pre ++ p, i) :: b ∧
      (t.wf = true → (t.insert i p).wf = true ∧ ∀ e ∈ b, e.1 ≠ pre ++ p)
  | [], pre, .node ch subs => by
    refine ⟨ch.map (fun i => (pre, i)), flatSubsP pre subs, rfl, ?_, fun hw => ⟨hw, fun e he heq => ?_⟩⟩
    · show (ch ++ [i]).map (fun i => (pre, i)) ++ flatSubsP pre subs = _
      rw [List.map_append, List.append_assoc, List.append_nil]
      rfl
    · obtain ⟨k, r, _, h⟩ := flatSubsP_prefix pre subs e he
      rw [h] at heq
      exact nomatch List.append_cancel_left heq
  | k :: ks, pre, .node ch subs => by
    obtain ⟨a, b, h1, h2, h3⟩ := insertSubs_flatSubsP i k ks pre subs
    exact ⟨ch.map (fun i => (pre, i)) ++ a, b, (congrArg (_ ++ ·) h1).trans (List.append_assoc ..).symm,
      (congrArg (_ ++ ·) h2).trans (List.append_assoc ..).symm, h3⟩
termination_by structural _ _ t => t
theorem insertSubs_flatSubsP (i : Issue) (k : CKey) (ks pre : List CKey) : ∀ (subs : List (CKey × PTree)),
    ∃ a b, flatSubsP pre subs = a ++ b ∧ flatSubsP pre (insertSubs i k ks subs) = a ++ (pre ++ k :: ks, i) :: b ∧
      (wfSubs subs = true → wfSubs (insertSubs i k ks subs) = true ∧ ∀ e ∈ b, e.1 ≠ pre ++ k :: ks)
  | [] => by
    refine ⟨[], [], rfl, ?_, fun _ => ⟨(wfSubs_cons ..).mpr ⟨chain_wf i ks, List.not_mem_nil, rfl⟩, fun _ he => nomatch he⟩⟩
    show (chain ks i).flatP (pre ++ [k]) ++ [] = _
    rw [chain_flatP, List.append_assoc]
    rfl
  | (k', t) :: rest => by
    rw [insertSubs_cons]
    split
    · rename_i hk
      obtain rfl : k' = k := eq_of_beq hk
      obtain ⟨a, b, h1, h2, h3⟩ := insert_flatP i ks (pre ++ [k']) t
      rw [List.append_assoc] at h2 h3
      refine ⟨a, b ++ flatSubsP pre rest, (congrArg (· ++ _) h1).trans (List.append_assoc ..),
        (congrArg (· ++ _) h2).trans (List.append_assoc ..), fun hw => ?_⟩
      obtain ⟨hwt, hnot, hwr⟩ := (wfSubs_cons ..).mp hw
      refine ⟨(wfSubs_cons ..).mpr ⟨(h3 hwt).1, hnot, hwr⟩, fun e he => ?_⟩
      rcases List.mem_append.mp he with he | he
      · exact (h3 hwt).2 e he
      · intro heq
        obtain ⟨k2, r, hk2, h⟩ := flatSubsP_prefix pre rest e he
        rw [h] at heq
        exact hnot ((List.cons.inj (List.append_cancel_left heq)).1 ▸ hk2)
    · rename_i hk
      obtain ⟨a, b, h1, h2, h3⟩ := insertSubs_flatSubsP i k ks pre rest
      refine ⟨t.flatP (pre ++ [k']) ++ a, b, (congrArg (_ ++ ·) h1).trans (List.append_assoc ..).symm,
        (congrArg (_ ++ ·) h2).trans (List.append_assoc ..).symm, fun hw => ?_⟩
      obtain ⟨hwt, hnot, hwr⟩ := (wfSubs_cons ..).mp hw
      refine ⟨(wfSubs_cons ..).mpr ⟨hwt, fun hin => ?_, (h3 hwr).1⟩, (h3 hwr).2⟩
      rcases insertSubs_keys i k ks rest k' hin with h | h
      · exact hk (h ▸ beq_self_eq_true k')
      · exact hnot h
termination_by structural subs => subs
end

theorem flatSubsP_insert (i : Issue) (k : CKey) (ks pre : List CKey) : ∀ (subs : List (CKey × PTree)), wfSubs subs = true →
    wfSubs (insertSubs i k ks subs) = true ∧
    ∃ a b, flatSubsP pre subs = a ++ b ∧ flatSubsP pre (insertSubs i k ks subs) = a ++ (pre ++ k :: ks, i) :: b ∧
      ∀ e ∈ b, e.1 ≠ pre ++ k :: ks := fun subs hw => by
  obtain ⟨a, b, h1, h2, h3⟩ := insertSubs_flatSubsP i k ks pre subs
  exact ⟨(h3 hw).1, a, b, h1, h2, (h3 hw).2⟩

theorem flat_insert (i : Issue) (p : List CKey) (t : PTree) :
    ∃ a b, t.flat = a ++ b ∧ (t.insert i p).flat = a ++ i :: b := by
  obtain ⟨a, b, h1, h2, -⟩ := insert_flatP i p [] t
  refine ⟨a.map (·.2), b.map (·.2), ?_, ?_⟩
  · rw [← flatP_flat [], h1, List.map_append]
  · rw [← flatP_flat [], h2, List.map_append]
    rfl

theorem flatSubs_insert (i : Issue) (k : CKey) (ks : List CKey) : ∀ (subs : List (CKey × PTree)),
    ∃ a b, flatSubs subs = a ++ b ∧ flatSubs (insertSubs i k ks subs) = a ++ i :: b :=
  fun subs => flat_insert i (k :: ks) (.node [] subs)

end HedVerif.Issue

namespace HedVerif.C12
open HedVerif.Issue

/-- **push ; pop is the identity** on the stack (whatever is pushed, `None` included). -/
theorem push_pop (ik : List Str) (st : Stack) (k : Str) (v : Option Val) : pop (push ik st k v) = some st := by
  simp [pop, push]

/-- **Pushed values are stored type-exactly**: anything but `None` — the integer 0 and the empty string included — is
the value the stack holds (the seeded `if not context` turns the column label `0` into `''`). -/
theorem push_keeps_value (ik : List Str) (st : Stack) (k : Str) (v : Val) :
    (push ik st k (some v)).getLast? = some (k, v) ∧ lastVal (push ik st k (some v)) k = some v := by
  simp [push, lastVal, getKey]

/-- `None` becomes `0` for the int-sorted context types (the row) and `""` for every other type. -/
theorem push_none_default (ik : List Str) (st : Stack) (k : Str) :
    lastVal (push ik st k none) k = some (if ik.contains k then .num 0 else .str []) := by
  simp [push, lastVal, getKey, defaultFor]

/-- **A formatted issue carries exactly the stack's contexts**: for every key, the value in the formatted issue is
the INNERMOST value the stack holds for it, and a key the stack does not hold keeps what the error object had.
Hypothesis: the issue is not dropped (warnings on, or an error). -/
theorem format_carries_stack (w : Bool) (st : Stack) (i : Issue) (hw : w = true ∨ i.severity < 10) :
    ∃ j, formatCtx w st i = [j] ∧ (∀ k, getKey j.ctx k = (lastVal st k).or (getKey i.ctx k)) ∧
      j.code = i.code ∧ j.severity = i.severity := by
  have hc : (!w && decide (10 ≤ i.severity)) = false := by
    rcases hw with rfl | h
    · rfl
    · rw [decide_eq_false (Nat.not_le.mpr h), Bool.and_false]
  refine ⟨_, by simp only [formatCtx, hc]; rfl, fun k => ?_, ?_, ?_⟩
  · rw [updateCharPos_ctx]
    exact getKey_foldl st i.ctx k
  · exact updateCharPos_code _ _
  · exact updateCharPos_severity _ _

/-- with warnings off a warning is dropped, whatever the stack -/
theorem format_drops_warning (st : Stack) (i : Issue) (h : 10 ≤ i.severity) : formatCtx false st i = [] := by
  simp [formatCtx, h]

/-- **Later calls never touch an issue already formatted**: running a history `h1 ++ h2` produces the issues of `h1`
first, unchanged, whatever `h2` pushes, pops or resets. -/
theorem formatted_issues_fixed (ik : List Str) (w : Bool) (s s2 : HState) (h1 h2 : List Op)
    (hr : run ik w s (h1 ++ h2) = some s2) :
    ∃ s1 extra, run ik w s h1 = some s1 ∧ run ik w s1 h2 = some s2 ∧ s2.out = s1.out ++ extra := by
  rw [run_append] at hr
  obtain ⟨s1, h1, hr⟩ := Option.bind_eq_some_iff.mp hr
  obtain ⟨extra, he⟩ := run_out ik w h2 s1 s2 hr
  exact ⟨s1, extra, h1, hr, he.symm⟩

/-- **An issue sees the stack of the moment it is formatted**: the issue appended by a `format` call at the end of
history `h` is `formatCtx` of the stack `h` leaves: no entry pushed later, none popped before. -/
theorem format_in_history (ik : List Str) (w : Bool) (s s2 : HState) (h : List Op) (i : Issue)
    (hr : run ik w s (h ++ [.format i]) = some s2) :
    ∃ s1, run ik w s h = some s1 ∧ s2.stack = s1.stack ∧ s2.out = s1.out ++ formatCtx w s1.stack i := by
  rw [run_append] at hr
  obtain ⟨s1, h1, hr⟩ := Option.bind_eq_some_iff.mp hr
  cases hr
  exact ⟨s1, h1, rfl, rfl⟩

/-- inserting an issue leaves every issue already in the tree in place and order -/
theorem print_insert (t : PTree) (i : Issue) (p : List CKey) :
    ∃ a b, t.flat = a ++ b ∧ (t.insert i p).flat = a ++ i :: b := flat_insert i p t

theorem buildTree_perm_aux (skip : Bool) (l : List Issue) (t : PTree) :
    (l.foldl (fun t i => t.insert i (contextPath skip i)) t).flat.Perm (t.flat ++ l) := by
  induction l generalizing t with
  | nil => simp
  | cons x xs ih =>
    rw [List.foldl_cons]
    refine (ih _).trans ?_
    obtain ⟨a, b, h1, h2⟩ := flat_insert x (contextPath skip x) t
    rw [h2, h1]
    simp only [List.append_assoc, List.cons_append]
    exact List.perm_middle.symm.append_left a

/-- **Every issue is printed exactly once**: the issues of the printed structure are a permutation of the list. -/
theorem print_perm (skip : Bool) (l : List Issue) : (buildTree skip l).flat.Perm l := by
  have := buildTree_perm_aux skip l (.node [] [])
  simpa [buildTree, PTree.flat, flatSubs] using this

/-- the issue lines of `get_printable_issue_string(issues)`, no severity filter, are the issues of the tree in order -/
theorem print_lines_issues (skip : Bool) (l : List Issue) :
    (printLines skip none l).filterMap Line.issue? = (buildTree skip l).flat := by
  simp [printLines, lines_flat]

/-- the issues printed at the level whose context headers are `q`, in printed order -/
def printedAt (q : List CKey) (t : PTree) : List Issue := ((t.flatP []).filter (fun e => e.1 == q)).map (·.2)

theorem flatP_foldl (skip : Bool) (q : List CKey) (l : List Issue) (t : PTree) (hw : t.wf = true) :
    ((l.foldl (fun t i => t.insert i (contextPath skip i)) t).flatP []).filter (fun e => e.1 == q) =
      (t.flatP []).filter (fun e => e.1 == q) ++ (l.filter (fun i => contextPath skip i == q)).map fun i => (q, i) := by
  induction l generalizing t with
  | nil => exact (List.append_nil _).symm
  | cons x xs ih =>
    obtain ⟨a, b, h1, h2, h3⟩ := insert_flatP x (contextPath skip x) [] t
    obtain ⟨hw', h3⟩ := h3 hw
    rw [List.nil_append] at h2 h3
    rw [List.foldl_cons, ih _ hw', h2, h1, List.filter_append, List.filter_append, List.filter_cons (xs := b),
      List.filter_cons (xs := xs)]
    by_cases hq : (contextPath skip x == q) = true
    · -- nothing after the insertion point is filed under `q`
      have hb : b.filter (fun e => e.1 == q) = [] :=
        List.filter_eq_nil_iff.mpr fun y hy hyq => h3 y hy ((eq_of_beq hyq).trans (eq_of_beq hq).symm)
      rw [if_pos hq, if_pos hq, hb, List.append_nil, List.map_cons, List.append_assoc, eq_of_beq hq]
      rfl
    · rw [if_neg hq, if_neg hq]

/-- **Stable grouping.** The issues printed at the level with header path `q` are exactly the issues of the list whose
own contexts are `q`, in list (= sort) order, however the groups interleave. -/
theorem print_groups_stable (skip : Bool) (q : List CKey) (l : List Issue) :
    printedAt q (buildTree skip l) = l.filter (fun i => contextPath skip i == q) := by
  unfold printedAt buildTree
  rw [flatP_foldl skip q l (.node [] []) rfl, List.map_append, List.map_map]
  exact List.map_id' _

/-- Dropping the paths of `flatP` gives the printed issues.  That those paths are the `Line.ctx` headers printed above an
issue is read off the definitions, not proved. -/
theorem printed_annotated (skip : Bool) (l : List Issue) :
    ((buildTree skip l).flatP []).map (·.2) = (buildTree skip l).flat := flatP_flat [] _

/-- **Issues under the same contexts are printed in list (= sort) order.** -/
theorem print_same_path (skip : Bool) (p : List CKey) (l : List Issue) (h : ∀ i ∈ l, contextPath skip i = p) :
    (buildTree skip l).flat = l := by
  -- the one group of `print_groups_stable`: every issue is filed under `p`
  have hall : ∀ e ∈ (buildTree skip l).flatP [], (e.1 == p) = true := by
    intro e he
    have hm := List.mem_filter (p := fun e' : List CKey × Issue => e'.1 == e.1).mpr ⟨he, beq_self_eq_true e.1⟩
    rw [buildTree, flatP_foldl skip e.1 l (.node [] []) rfl] at hm
    obtain ⟨i, hi, -⟩ := List.mem_map.mp hm
    obtain ⟨hil, hie⟩ := List.mem_filter.mp hi
    rw [← eq_of_beq hie, h i hil]
    exact beq_self_eq_true p
  rw [← printed_annotated, ← List.filter_eq_self.mpr hall]
  exact (print_groups_stable skip p l).trans (List.filter_eq_self.mpr fun i hi => h i hi ▸ beq_self_eq_true _)

private def rowK : Str := ['e','c','_','r','o','w']
private def colK : Str := ['e','c','_','c','o','l','u','m','n']

/-- column label 0 stays the integer 0, an explicit `""` row stays `""`, `None` defaults by type -/
example :
    (match lastVal (push [rowK] [] colK (some (.num 0))) colK with | some (.num 0) => true | _ => false) = true ∧
    (match lastVal (push [rowK] [] rowK (some (.str []))) rowK with | some (.str []) => true | _ => false) = true ∧
    (match lastVal (push [rowK] [] colK none) colK with | some (.str []) => true | _ => false) = true ∧
    (match lastVal (push [rowK] [] rowK none) rowK with | some (.num 0) => true | _ => false) = true := by decide +kernel

/-- push row 3, column 0, format, pop, pop, format: the first issue holds both contexts, the second none -/
example :
    let i : Issue := { code := ['X'], severity := 1, span := none }
    ((run [rowK] true {} [.push rowK (some (.num 3)), .push colK (some (.num 0)), .format i, .pop, .pop, .format i]).map
      fun s => s.out.map fun j => j.ctx.map fun kv => (kv.1, match kv.2 with | .num n => n | _ => -1)) =
      some [[(rowK, 3), (colK, 0)], []] := by decide +kernel

/-- pop on an empty stack raises -/
example : (run [] true {} [.pop]).isNone = true := by decide

/-- the second row-1 issue is printed before the row-2 issue that precedes it in the list -/
example :
    let a : Issue := { code := ['A'], severity := 1, span := none, ctx := [(rowK, .str ['1'])] }
    let b : Issue := { code := ['B'], severity := 1, span := none, ctx := [(rowK, .str ['2'])] }
    let c : Issue := { code := ['C'], severity := 1, span := none, ctx := [(rowK, .str ['1'])] }
    (buildTree true [a, b, c]).flat.map (·.code) = [['A'], ['C'], ['B']] := by decide +kernel

/-- `print_groups_stable` on that list: A, C under row 1, B under row 2 -/
example :
    let a : Issue := { code := ['A'], severity := 1, span := none, ctx := [(rowK, .str ['1'])] }
    let b : Issue := { code := ['B'], severity := 1, span := none, ctx := [(rowK, .str ['2'])] }
    let c : Issue := { code := ['C'], severity := 1, span := none, ctx := [(rowK, .str ['1'])] }
    (printedAt [(rowK, ['1'])] (buildTree true [a, b, c])).map (·.code) = [['A'], ['C']] ∧
    (printedAt [(rowK, ['2'])] (buildTree true [a, b, c])).map (·.code) = [['B']] := by decide +kernel

end HedVerif.C12
