import HedVerif.Props.C04.Phases

namespace HedVerif.Rewrite
open HedVerif HedVerif.Validate HedVerif.Generated.CodeMap Tok Tree

/-! `validate_sim` brings `validateP_sim` down to texts; its side conditions hold of every parse. The invariance
theorems of `namespace C04` are its instances: blanks next to delimiters keep the forest and the raw-text codes; a
printed forest parses back to itself (C02) and its raw-text codes are those of its tag texts. -/

theorem Blank.lift {β : Type} (f : Str → β) (hf : ∀ {s s'}, BlankStep s s' → f s = f s') {s s' : Str}
    (h : Blank s s') : f s = f s' := by
  induction h with
  | refl => rfl
  | ins h => exact hf h
  | del h => exact (hf h).symm
  | trans _ _ ih1 ih2 => exact ih1.trans ih2

def tagTexts (s : Str) : List Str := ((split s).filter (·.isTag)).map fun t => slice s t.start t.stop

theorem tagTexts_eq_evs (s : Str) : tagTexts s = (evs s (split s)).filterMap fun e => match e with | .tag w => some w | _ => none := by
  rw [tagTexts, evs, List.filterMap_filterMap, ← List.filterMap_eq_map, List.filterMap_filter]
  congr 1
  funext t
  rw [tokEv]
  cases t.isTag
  · rw [if_neg Bool.false_ne_true, if_neg Bool.false_ne_true, clsOf]
    split <;> rfl
  · rfl

theorem spacing_invariant_text {s s' : Str} (h : Blank s s') :
    tagTexts s = tagTexts s' ∧ absList s (construct s) = absList s' (construct s') := by
  have he := Blank.lift (fun s => evs s (split s)) evs_blankStep h
  exact ⟨by rw [tagTexts_eq_evs, tagTexts_eq_evs, he], by rw [construct_ev, construct_ev, he]⟩

theorem textIssues_blankRel (env : Env) (ph : Bool) {s s' : Str} (h : Blank s s') :
    errCodes (textIssues env ph s) = errCodes (textIssues env ph s') := by
  refine Blank.lift (fun s => errCodes (textIssues env ph s)) (fun h => ?_) h
  cases h with
  | start => exact (textIssues_blank env ph [] _).symm
  | stop => exact (List.append_nil _ ▸ textIssues_blank env ph _ []).symm
  | after a b d _ =>
    simpa only [List.append_assoc, List.singleton_append] using (textIssues_blank env ph (a ++ [d]) b).symm
  | before a b d _ => exact (textIssues_blank env ph a (d :: b)).symm

mutual
theorem aNodeSim_refl : ∀ (n : ATree), ANodeSim Eq n n
  | .tag _ => rfl
  | .group ks => ⟨ks, aPointSim_refl ks, List.Perm.refl _⟩
theorem aPointSim_refl : ∀ (l : List ATree), APointSim Eq l l
  | [] => trivial
  | k :: ks => ⟨aNodeSim_refl k, aPointSim_refl ks⟩
end

mutual
/-- start positions of a node and of everything below it -/
def startsNode : Node → List Nat
  | .tag a _ => [a]
  | .group a _ kids => a :: startsList kids
def startsList : List Node → List Nat
  | [] => []
  | n :: ns => startsNode n ++ startsList ns
end

theorem startsList_append (l m : List Node) : startsList (l ++ m) = startsList l ++ startsList m := by
  induction l with
  | nil => rfl
  | cons k ks ih => rw [List.cons_append, startsList, startsList, ih, List.append_assoc]

/-- The builder keeps finished nodes latest first; their starts, also latest first. -/
def revStarts (kids : List Node) : List Nat := (startsList kids.reverse).reverse

theorem revStarts_cons (n : Node) (kids : List Node) :
    revStarts (n :: kids) = (startsNode n).reverse ++ revStarts kids := by
  rw [revStarts, List.reverse_cons, startsList_append, List.reverse_append, startsList, startsList, List.append_nil]
  rfl

/-- the starts held in the open frames and at the top level, latest first -/
def allStarts (top : List Node) (stack : List Frame) : List Nat :=
  stack.flatMap (fun f => revStarts f.kids ++ [f.start]) ++ revStarts top

theorem allStarts_addNode (top : List Node) (stack : List Frame) (n : Node) :
    allStarts (addNode (top, stack) n).1 (addNode (top, stack) n).2 = (startsNode n).reverse ++ allStarts top stack := by
  cases stack with
  | nil => exact revStarts_cons n top
  | cons f fs =>
    simp only [addNode, allStarts, List.flatMap_cons, revStarts_cons, List.append_assoc]

theorem stepTok_starts {s : Str} {t : Token} (htok : TokOK s t) {top : List Node} {stack : List Frame}
    {r : List Node × List Frame} (h : stepTok s top stack t = .ok r) :
    allStarts r.1 r.2 = allStarts top stack ∨
      ∃ x, t.start ≤ x ∧ x < t.stop ∧ allStarts r.1 r.2 = x :: allStarts top stack := by
  cases htag : t.isTag with
  | true =>
    rw [stepTok_tag s top stack htag] at h
    cases h
    exact .inr ⟨t.start, Nat.le_refl _, htok.1, allStarts_addNode top stack _⟩
  | false =>
    obtain ⟨ch, hch, _, hlt, _⟩ := token_shape s t htok htag
    rw [stepTok_delim top stack htag hch] at h
    generalize parenOf ch = p at h
    rcases p with _ | _ | _
    · cases h
      exact .inl rfl
    · cases stack with
      | nil => cases h
      | cons f fs =>
        cases h
        -- the group made of the frame holds what the frame held
        refine .inl ((allStarts_addNode top fs _).trans ?_)
        simp only [startsNode, List.reverse_cons, allStarts, List.flatMap_cons, List.append_assoc]
        rfl
    · cases h
      exact .inr ⟨delimPos s t, Nat.le_add_right _ _, hlt, rfl⟩

theorem construct_starts_nodup (s : Str) : (startsList (construct s)).Nodup := by
  unfold construct
  cases h : build s with
  | error e => exact List.nodup_nil
  | ok r =>
    have := buildToks_induct (s := s)
      (fun p r => (∀ x ∈ allStarts r.1 r.2, x < p) ∧ (allStarts r.1 r.2).Nodup) (split s)
      (fun t ht top stack r ⟨hlt, hn⟩ hs => by
        have htok := (C02.tiling s).2 t ht
        have hlt' : ∀ x ∈ allStarts top stack, x < t.stop := fun x hx => Nat.lt_trans (hlt x hx) htok.1
        rcases stepTok_starts htok hs with e | ⟨y, hy1, hy2, e⟩
        · rw [e]
          exact ⟨hlt', hn⟩
        · rw [e]
          refine ⟨fun x hx => ?_, List.nodup_cons.mpr ⟨fun hm => Nat.lt_irrefl y (Nat.lt_of_lt_of_le (hlt y hm) hy1), hn⟩⟩
          rcases List.mem_cons.mp hx with rfl | hx'
          · exact hy2
          · exact hlt' x hx')
      0 s.length ([], []) (C02.tiling s).1 ⟨fun _ hx => (nomatch hx), List.nodup_nil⟩ r h
    have hn : (startsList r.reverse.reverse).reverse.Nodup := this.2
    rw [List.reverse_reverse] at hn
    exact (List.reverse_perm _).nodup_iff.mp hn

mutual
theorem rstarts_resolveNode (env : Env) (s : Str) : ∀ (n : Node), rstartsNode (resolveNode env s n) = startsNode n
  | .tag a b => by simp [resolveNode, rstartsNode, startsNode, mkTag, canon_span]
  | .group a b ks => by simp [resolveNode, rstartsNode, startsNode, rstarts_resolveList env s ks]
theorem rstarts_resolveList (env : Env) (s : Str) : ∀ (l : List Node), rstartsList (resolveList env s l) = startsList l
  | [] => rfl
  | k :: ks => by simp [resolveList, rstartsList, startsList, rstarts_resolveNode env s k, rstarts_resolveList env s ks]
end

theorem parse_starts_nodup (env : Env) (s : Str) : (rstartsList (parse env s).root0).Nodup := by
  show (rstartsList (resolveList env s (construct s))).Nodup
  rw [rstarts_resolveList]
  exact construct_starts_nodup s

/-- every tag of a parse satisfies `P` (as the duplicate rule sees it), before and after the second pass -/
def TagsOK (env : Env) (P : Dup.Tag → Prop) (s : Str) : Prop :=
  (∀ x ∈ tagsList (parse env s).root0, P (toDupTag env x)) ∧ (∀ x ∈ tagsList (parse env s).root1, P (toDupTag env x))

/-- **Whole validator, text level.** Two texts whose abstract forests are related (same shape, related tag
texts, members of every group permuted) and whose raw-text rules agree get the same multiset of error codes. -/
theorem validate_sim {env : Env} {R : RTag → RTag → Prop} {Rt : Str → Str → Prop} (hR : TagRel env R)
    (hRt : ∀ w w' sp sp', Rt w w' → R (mkTagW env w sp) (mkTagW env w' sp'))
    (hs : env.var.sortCanonical = true) (he : env.var.eqFold = true)
    {P : Dup.Tag → Prop} (hP : Dup.Adm P) (hD : DefsOK env P) (ph : Bool) (s s' : Str)
    (hA : AForestSim Rt (absList s (construct s)) (absList s' (construct s')))
    (hText : (errCodes (textIssues env ph s)).Perm (errCodes (textIssues env ph s')))
    (hok : TagsOK env P s) (hok' : TagsOK env P s') :
    (errCodes (validate env ph s)).Perm (errCodes (validate env ph s')) :=
  validateP_sim hR hs he hP hD ph s s' (parse env s) (parse env s') (parse_wf env s) (parse_wf env s')
    (parse_sim env hRt s s' hA) hText hok.1 hok'.1 hok.2 hok'.2 (parse_starts_nodup env s) (parse_starts_nodup env s')


section printed
variable (cd : CharData)

/-- the scan stands before an element: nothing pending, last significant character none, `,` or `(` -/
def DReady (st : Validate.DSt) : Prop :=
  st.stop = false ∧ st.issues = [] ∧ st.cur.all (isSpace cd) = true ∧
    (st.last = none ∨ st.last = some ',' ∨ st.last = some '(')

/-- the scan stands after an element -/
def DDone (st : Validate.DSt) : Prop :=
  st.stop = false ∧ st.issues = [] ∧ st.cur.all (isSpace cd) = false ∧ ∃ c, st.last = some c ∧ c ≠ ',' ∧ c ≠ '('

/-- a tag text the delimiter scan can see: it starts with a character that is not white space -/
def SolidText (w : Str) : Prop := ValidText w ∧ ∀ c, w.head? = some c → isSpace cd c = false

theorem isSpace_delim {c : Char} (h : isDelim c = true) : isSpace cd c = false := by
  simp only [isDelim, Bool.or_eq_true, beq_iff_eq] at h
  rcases h with (rfl | rfl) | rfl <;> rfl

/-- a character of a tag text: the first (the scan is `DReady`, the character not white space) or a later one -/
theorem dstep_tagchar (st : Validate.DSt) (i : Nat) (c : Char) (hd : isDelim c = false)
    (h : DDone cd st ∧ st.last ≠ some ')' ∨ DReady cd st ∧ isSpace cd c = false) :
    DDone cd (dstep cd st i c) ∧ (dstep cd st i c).last ≠ some ')' := by
  obtain ⟨⟨h1, h2⟩, h3⟩ : (c ≠ ',' ∧ c ≠ '(') ∧ c ≠ ')' := by
    simpa [isDelim] using hd
  have hstop : st.stop = false := h.elim (·.1.1) (·.1.1)
  have hiss : st.issues = [] := h.elim (·.1.2.1) (·.1.2.1)
  have hl : st.last ≠ some ')' := h.elim (·.2) fun r => by
    rcases r.1.2.2.2 with a | a | a <;> rw [a] <;> decide
  unfold dstep
  rw [if_neg (by simp [hstop])]
  by_cases hsp : isSpace cd c = true
  · obtain ⟨hD, _⟩ := h.resolve_right (by simp [hsp])
    rw [if_pos hsp]
    exact ⟨⟨hstop, hiss, by simp [hD.2.2.1], hD.2.2.2⟩, hl⟩
  · rw [if_neg hsp, if_neg (by simpa using h1), if_neg (by simpa using h2), if_neg (by simp [h3]), if_neg (by simp [hl])]
    exact ⟨⟨hstop, hiss, by simp [hsp], c, rfl, h1, h2⟩, by simp [h3]⟩

theorem drun_tagtail : ∀ (w : Str) (st : Validate.DSt) (i : Nat), (∀ c ∈ w, isDelim c = false) →
    DDone cd st ∧ st.last ≠ some ')' → DDone cd (drun cd st i w) ∧ (drun cd st i w).last ≠ some ')'
  | [], _, _, _, h => h
  | c :: cs, st, i, hw, h => by
    simp only [drun]
    exact drun_tagtail cs _ _ (fun x hx => hw x (by simp [hx])) (dstep_tagchar cd st i c (hw c (by simp)) (Or.inl h))

theorem drun_tagtext (w : Str) (hw : SolidText cd w) (st : Validate.DSt) (i : Nat) (h : DReady cd st) :
    DDone cd (drun cd st i w) := by
  obtain ⟨⟨hne, hnd, _, _⟩, hsol⟩ := hw
  cases w with
  | nil => exact absurd rfl hne
  | cons c cs =>
    simp only [drun]
    exact (drun_tagtail cd cs _ _ (fun x hx => hnd x (by simp [hx]))
      (dstep_tagchar cd st i c (hnd c (by simp)) (Or.inr ⟨h, hsol c rfl⟩))).1

theorem dstep_comma {st : Validate.DSt} {i : Nat} (h : DDone cd st) : DReady cd (dstep cd st i ',') := by
  obtain ⟨hstop, hiss, hcur, _⟩ := h
  have hsp : isSpace cd ',' = false := isSpace_delim cd (by decide)
  unfold dstep
  rw [if_neg (by simp [hstop]), if_neg (by simp [hsp]), if_pos (by decide), strip_eq, Dup.Scan.strip_snoc _ _ hsp, hcur,
    if_neg Bool.false_ne_true]
  exact ⟨hstop, hiss, rfl, Or.inr (Or.inl rfl)⟩

theorem dstep_open (st : Validate.DSt) (i : Nat) (h : DReady cd st) :
    DReady cd (dstep cd st i '(') ∧ (dstep cd st i '(').last = some '(' := by
  obtain ⟨hstop, hiss, hcur, _⟩ := h
  have hsp : isSpace cd '(' = false := isSpace_delim cd (by decide)
  unfold dstep
  rw [if_neg (by simp [hstop]), if_neg (by simp [hsp]), if_neg (by decide), if_pos (by decide), strip_eq,
    Dup.Scan.strip_snoc _ _ hsp, hcur, if_pos rfl]
  exact ⟨⟨hstop, hiss, rfl, Or.inr (Or.inr rfl)⟩, rfl⟩

theorem dstep_close {st : Validate.DSt} {i : Nat} (h : DDone cd st ∨ (DReady cd st ∧ st.last = some '(')) :
    DDone cd (dstep cd st i ')') := by
  have hsp : isSpace cd ')' = false := isSpace_delim cd (by decide)
  have hstop : st.stop = false := h.elim (·.1) (·.1.1)
  have hiss : st.issues = [] := h.elim (·.2.1) (·.1.2.1)
  have hl : st.last ≠ some ',' := by
    rcases h with ⟨_, _, _, x, a4, a5, _⟩ | ⟨_, a⟩
    · rw [a4]
      exact fun e => a5 (Option.some.inj e)
    · rw [a]
      decide
  unfold dstep
  rw [if_neg (by simp [hstop]), if_neg (by simp [hsp]), if_neg (by decide), if_neg (by decide), if_neg (by simp [hl]),
    if_neg (by simp)]
  exact ⟨hstop, hiss, by simp [hsp], ')', rfl, by decide, by decide⟩

mutual
def SolidNode (cd : CharData) : ATree → Prop
  | .tag w => SolidText cd w
  | .group kids => SolidList cd kids
def SolidList (cd : CharData) : List ATree → Prop
  | [] => True
  | n :: ns => SolidNode cd n ∧ SolidList cd ns
end

mutual
theorem drun_node : ∀ (n : ATree), SolidNode cd n → ∀ (st : Validate.DSt) (i : Nat), DReady cd st →
    DDone cd (drun cd st i (renderNode n))
  | .tag w, hn, st, i, h => drun_tagtext cd w hn st i h
  | .group kids, hn, st, i, h => by
    simp only [renderNode, drun]
    rw [drun_append]
    simp only [drun]
    have ho := dstep_open cd st i h
    cases kids with
    | nil =>
      simp only [renderList, drun]
      exact dstep_close cd (Or.inr ho)
    | cons k ks =>
      exact dstep_close cd (Or.inl (drun_list (k :: ks) (by simp) hn _ _ ho.1))
theorem drun_list : ∀ (l : List ATree), l ≠ [] → SolidList cd l → ∀ (st : Validate.DSt) (i : Nat), DReady cd st →
    DDone cd (drun cd st i (renderList l))
  | [], hne, _, _, _, _ => absurd rfl hne
  | [n], _, hl, st, i, h => by
    simp only [renderList]
    exact drun_node n hl.1 st i h
  | n :: m :: ns, _, hl, st, i, h => by
    simp only [renderList]
    rw [drun_append]
    simp only [drun]
    exact drun_list (m :: ns) (by simp) hl.2 _ _ (dstep_comma cd (drun_node n hl.1 st i h))
end

theorem delimIssues_render (l : List ATree) (hl : SolidList cd l) : delimIssues cd (renderList l) = [] := by
  unfold delimIssues
  cases l with
  | nil => rfl
  | cons k ks =>
    obtain ⟨_, a2, _, x, a4, a5, _⟩ := drun_list cd (k :: ks) (List.cons_ne_nil k ks) hl {} 0 ⟨rfl, rfl, rfl, Or.inl rfl⟩
    simp [a2, a4, a5]

end printed

mutual
theorem solid_valid (cd : CharData) : ∀ (n : ATree), SolidNode cd n → ValidNode n
  | .tag _, h => h.1
  | .group ks, h => solidList_valid cd ks h
theorem solidList_valid (cd : CharData) : ∀ (l : List ATree), SolidList cd l → ValidList l
  | [], _ => trivial
  | n :: ns, h => ⟨solid_valid cd n h.1, solidList_valid cd ns h.2⟩
end

theorem parenIssues_render (l : List ATree) (hv : ValidList l) : parenIssues (renderList l) = [] := by
  have hb : balanced (renderList l) := (C02.build_ok_iff_balanced _).mp ⟨_, build_render l hv⟩
  have : Paren.mismatch (renderList l) = false := Bool.eq_false_iff.mpr fun h => (C02.mismatch_reported _).mp h hb
  simp [parenIssues, this]

/-- the codes of the character rule, character by character -/
def charCodes (env : Env) (ph : Bool) (s : Str) : List Str :=
  s.flatMap fun c => if badChar env ph c then errCodes [charIssue 0 c] else []

theorem charIssues_codes (env : Env) (ph : Bool) (s : Str) : errCodes (charIssues env ph s) = charCodes env ph s :=
  charIssuesFrom_codes env ph s 0

theorem badChar_delim (env : Env) (ph : Bool) {c : Char} (h : isDelim c = true) : badChar env ph c = false := by
  simp only [isDelim, Bool.or_eq_true, beq_iff_eq] at h
  have hc : isPrintable env.cd c = true ∧ c.toNat ≤ 127 ∧
      c ∉ invalidStringCharsPlaceholders ∧ c ∉ invalidStringChars := by
    rcases h with (rfl | rfl) | rfl <;> exact ⟨rfl, by decide, by decide, by decide⟩
  cases ph <;> cases hm : env.modern <;> simp [badChar, hc, hm]

mutual
def textsNode : ATree → List Str
  | .tag w => [w]
  | .group ks => textsList ks
def textsList : List ATree → List Str
  | [] => []
  | k :: ks => textsNode k ++ textsList ks
end

theorem textsList_eq (l : List ATree) : textsList l = l.flatMap textsNode := by
  induction l with
  | nil => rfl
  | cons k ks ih => simp [textsList, ih]

mutual
/-- the characters of a printed forest, delimiters aside, are those of its tag texts -/
theorem renderNode_flatMap {β : Type} (f : Char → List β) (hf : ∀ c, isDelim c = true → f c = []) :
    ∀ (n : ATree), (renderNode n).flatMap f = (textsNode n).flatMap (·.flatMap f)
  | .tag w => by simp [renderNode, textsNode]
  | .group ks => by simp [renderNode, textsNode, hf '(' rfl, hf ')' rfl, renderList_flatMap f hf ks]
theorem renderList_flatMap {β : Type} (f : Char → List β) (hf : ∀ c, isDelim c = true → f c = []) :
    ∀ (l : List ATree), (renderList l).flatMap f = (textsList l).flatMap (·.flatMap f)
  | [] => rfl
  | [n] => by simp [renderList, textsList, renderNode_flatMap f hf n]
  | n :: m :: ns => by
    simp [renderList, textsList, hf ',' rfl, renderNode_flatMap f hf n, renderList_flatMap f hf (m :: ns)]
end

theorem charCodes_node (env : Env) (ph : Bool) : ∀ (n : ATree), charCodes env ph (renderNode n) = (textsNode n).flatMap (charCodes env ph) :=
  renderNode_flatMap _ fun c h => by simp [badChar_delim env ph h]

theorem charCodes_list (env : Env) (ph : Bool) : ∀ (l : List ATree), charCodes env ph (renderList l) = (textsList l).flatMap (charCodes env ph) :=
  renderList_flatMap _ fun c h => by simp [badChar_delim env ph h]

section asim
variable {Rt : Str → Str → Prop}

mutual
theorem ANodeSim.texts_flatMap {β : Type} (F : Str → List β) (hF : ∀ w w', Rt w w' → (F w).Perm (F w')) :
    ∀ (k k' : ATree), ANodeSim Rt k k' → ((textsNode k).flatMap F).Perm ((textsNode k').flatMap F)
  | .tag w, .tag w', h => by simpa [textsNode] using hF w w' h
  | .group ks, .group ks', ⟨m, hm, hp⟩ => by
    simp only [textsNode, textsList_eq, List.flatMap_assoc]
    exact (APointSim.texts_flatMap F hF ks m hm).trans (hp.flatMap_right _)
theorem APointSim.texts_flatMap {β : Type} (F : Str → List β) (hF : ∀ w w', Rt w w' → (F w).Perm (F w')) :
    ∀ (l m : List ATree), APointSim Rt l m →
      (l.flatMap fun k => (textsNode k).flatMap F).Perm (m.flatMap fun k => (textsNode k).flatMap F)
  | [], [], _ => List.Perm.refl _
  | k :: ks, k' :: ms, h => by
    simp only [List.flatMap_cons]
    exact (ANodeSim.texts_flatMap F hF k k' h.1).append (APointSim.texts_flatMap F hF ks ms h.2)
end

/-- the raw-text rules on two printed forests whose tag texts have the same forbidden characters -/
theorem textIssues_render (env : Env) (ph : Bool) {l l' : List ATree} (hl : SolidList env.cd l) (hl' : SolidList env.cd l')
    (h : AForestSim Rt l l') (hRt : ∀ w w', Rt w w' → (charCodes env ph w).Perm (charCodes env ph w')) :
    (errCodes (textIssues env ph (renderList l))).Perm (errCodes (textIssues env ph (renderList l'))) := by
  simp only [textIssues, parenIssues_render l (solidList_valid _ l hl),
    parenIssues_render l' (solidList_valid _ l' hl'), delimIssues_render _ l hl, delimIssues_render _ l' hl',
    charIssues_codes, charCodes_list, List.append_nil]
  exact ANodeSim.texts_flatMap _ hRt (.group l) (.group l') h

end asim

/-! ### the Onset/Offset/Inset rule: vacuous when no top-level group is anchored by such a tag -/

def NoTemporal (env : Env) (root : List RNode) : Prop := topLevelAnchored env temporalKeys root = []

theorem onsetIssues_nil {env : Env} {root : List RNode} (h : NoTemporal env root) : onsetIssues env root = [] := by
  unfold onsetIssues
  rw [show topLevelAnchored env temporalKeys root = [] from h]
  rfl

theorem noTemporal_iff (env : Env) (root : List RNode) :
    NoTemporal env root ↔ root.flatMap (anchoredNode env temporalKeys fun _ => [()]) = [] := by
  rw [← topLevelAnchored_flatMap, NoTemporal, List.flatMap_eq_nil_iff, List.eq_nil_iff_forall_not_mem]
  exact ⟨fun h x hx => absurd hx (h x), fun h x hx => nomatch h x hx⟩

theorem noTemporal_sim {env : Env} {R : RTag → RTag → Prop} (hR : ∀ t t', R t t' → Core t t') {l l' : List RNode}
    (h : ForestSim R l l') (hn : NoTemporal env l) : NoTemporal env l' := by
  rw [noTemporal_iff] at hn ⊢
  exact ((h.flatMap_perm _ _ fun k _ k' _ hk => anchoredNode_sim hR temporalKeys _ _ (P := List.Perm) (.refl _)
    (fun _ _ _ => .refl _) hk).symm.trans (.of_eq hn)).eq_nil

def Rewritten (env : Env) (t t' : RTag) : Prop := SameTag t t' ∨ Respelled env t t'

theorem rewritten_rel (env : Env) : TagRel env (Rewritten env) where
  core := fun _ _ h => h.elim SameTag.core (·.core)
  slash := fun t t' h => h.elim ((sameTag_rel env).slash t t') (·.slash)
  chars := fun t t' h ph => h.elim (fun g => (sameTag_rel env).chars t t' g ph) (fun g => g.chars ph)
  recanon := fun t t' h => h.elim (fun g => Or.inl (canon_same env g))
    (fun g => Or.inr (by rw [g.stable.1, g.stable.2]; exact g))
  lookup := fun t t' h => (errCodes_of_sigs (canon_core_sigs env (h.elim SameTag.core (·.core)))).symm

theorem mkTagW_same (env : Env) (w : Str) (sp sp' : Nat × Nat) : SameTag (mkTagW env w sp) (mkTagW env w sp') :=
  canon_same env ⟨rfl, rfl, rfl, rfl⟩

/-- tag texts: the same text, or another spelling of the same tag with the same forbidden characters -/
def RespellText (env : Env) (w w' : Str) : Prop :=
  w' = w ∨ ((∀ sp sp', Respelled env (mkTagW env w sp) (mkTagW env w' sp')) ∧
    ∀ ph, (charCodes env ph w).Perm (charCodes env ph w'))

theorem respellText_tag (env : Env) (w w' : Str) (sp sp' : Nat × Nat) (h : RespellText env w w') :
    Rewritten env (mkTagW env w sp) (mkTagW env w' sp') := by
  rcases h with rfl | h
  · exact Or.inl (mkTagW_same env _ sp sp')
  · exact Or.inr (h.1 sp sp')

theorem respellText_chars (env : Env) (ph : Bool) (w w' : Str) (h : RespellText env w w') :
    (charCodes env ph w).Perm (charCodes env ph w') :=
  h.elim (fun e => e ▸ .refl _) (·.2 ph)

/-- two spellings that the look-up resolves to the same entry with the same remainder give `Core` tags (C03
provides the premise: `C04.spelling_same_node`, `C03.forms_roundtrip_remainder`) -/
theorem mkTagW_core (env : Env) (w w' : Str) (sp sp' : Nat × Nat)
    (hns : Schema.namespaceOf w = env.ns) (hns' : Schema.namespaceOf w' = env.ns) (i : Nat) (rem : Str)
    (hf : Schema.find env.vocab fold (w.drop env.ns.length) = .found i rem)
    (hf' : Schema.find env.vocab fold (w'.drop env.ns.length) = .found i rem) :
    Core (mkTagW env w sp) (mkTagW env w' sp') := by
  unfold mkTagW canon
  simp only [strOf, hns, hns', bne_self_eq_false, Bool.false_eq_true, ↓reduceIte, hf, hf']
  exact ⟨rfl, rfl, rfl, fun h => by simp at h⟩

end HedVerif.Rewrite

namespace HedVerif.C04
open HedVerif HedVerif.Validate HedVerif.Rewrite Tok Tree

/-- what is assumed of every text the rewrites pass through: its tags are admissible for the duplicate rule
(`Dup.Adm`: what C02 and C03 say of parsed, resolved tags) -/
def TextOK (env : Env) (P : Dup.Tag → Prop) (s : Str) : Prop := TagsOK env P s

/-- **Distinct positions** (every text): in the tree of `HedString(s)` every tag and every group, at any depth,
starts at a position of its own.  This is what identifies a node where the code tests identity (`is`). -/
theorem construct_starts_nodup (s : Str) : (startsList (construct s)).Nodup := Rewrite.construct_starts_nodup s

/-- **Spacing, parse level, every text** (`Tok.split`, `Tree.construct`): same tag texts, same tree up to spans. -/
theorem spacing_invariant_text {s s' : Str} (h : Blank s s') :
    tagTexts s = tagTexts s' ∧ absList s (construct s) = absList s' (construct s') :=
  Rewrite.spacing_invariant_text h

/-- **Spacing, whole validator**, every rule, both values of `allow_placeholders`, every text. -/
theorem spacing_invariant_full (env : Env) (hs : env.var.sortCanonical = true) (he : env.var.eqFold = true)
    {P : Dup.Tag → Prop} (hP : Dup.Adm P) (hD : DefsOK env P) (ph : Bool) {s s' : Str} (h : Blank s s')
    (hok : TextOK env P s) (hok' : TextOK env P s') :
    (errCodes (validate env ph s)).Perm (errCodes (validate env ph s')) := by
  refine validate_sim (sameTag_rel env) (Rt := Eq) (fun w w' sp sp' hw => by subst hw; exact mkTagW_same env _ sp sp')
    hs he hP hD ph s s' ?_ (List.Perm.of_eq (textIssues_blankRel env ph h)) hok hok'
  rw [(Rewrite.spacing_invariant_text h).2]
  -- a forest is related to another as the group made of the one is to the group made of the other
  exact aNodeSim_refl (.group _)

/-- **Order and spelling, whole validator, on printed annotations.** Forests with the same shape up to the order of
the members at every level, tag texts equal or respellings: the printed texts get the same multiset of error codes. -/
theorem rewrite_printed_invariant (env : Env) (hs : env.var.sortCanonical = true) (he : env.var.eqFold = true)
    {P : Dup.Tag → Prop} (hP : Dup.Adm P) (hD : DefsOK env P) (ph : Bool) {T T' : List ATree}
    (hT : SolidList env.cd T) (hT' : SolidList env.cd T') (h : AForestSim (RespellText env) T T')
    (hok : TextOK env P (renderList T)) (hok' : TextOK env P (renderList T')) :
    (errCodes (validate env ph (renderList T))).Perm (errCodes (validate env ph (renderList T'))) := by
  refine validate_sim (rewritten_rel env) (Rt := RespellText env) (respellText_tag env)
    hs he hP hD ph _ _ ?_ (textIssues_render env ph hT hT' h (respellText_chars env ph)) hok hok'
  rw [(C02.roundtrip_original T (solidList_valid _ T hT)).2.1, (C02.roundtrip_original T' (solidList_valid _ T' hT')).2.1]
  exact h

mutual
theorem aNodeSim_mono {Rt Rt' : Str → Str → Prop} (hm : ∀ w w', Rt w w' → Rt' w w') :
    ∀ (k k' : ATree), ANodeSim Rt k k' → ANodeSim Rt' k k'
  | .tag _, .tag _, h => hm _ _ h
  | .group ks, .group _, ⟨m, hmm, hp⟩ => ⟨m, aPointSim_mono hm ks m hmm, hp⟩
theorem aPointSim_mono {Rt Rt' : Str → Str → Prop} (hm : ∀ w w', Rt w w' → Rt' w w') :
    ∀ (l m : List ATree), APointSim Rt l m → APointSim Rt' l m
  | [], [], _ => trivial
  | k :: ks, k' :: ms, h => ⟨aNodeSim_mono hm k k' h.1, aPointSim_mono hm ks ms h.2⟩
end

/-- **Order, whole validator**: permuting the members of any group or of the top level, at any depth. -/
theorem order_invariant_full (env : Env) (hs : env.var.sortCanonical = true) (he : env.var.eqFold = true)
    {P : Dup.Tag → Prop} (hP : Dup.Adm P) (hD : DefsOK env P) (ph : Bool) {T T' : List ATree}
    (hT : SolidList env.cd T) (hT' : SolidList env.cd T') (h : AForestSim Eq T T')
    (hok : TextOK env P (renderList T)) (hok' : TextOK env P (renderList T')) :
    (errCodes (validate env ph (renderList T))).Perm (errCodes (validate env ph (renderList T'))) :=
  rewrite_printed_invariant env hs he hP hD ph hT hT'
    (aNodeSim_mono (fun _ _ hw => Or.inl hw.symm) (.group T) (.group T') h) hok hok'

/-- **Spelling, whole validator**: every tag text replaced by a respelling (`RespellText`: same namespace, entry and
value after look-up, C03; same slash, character and forbidden-character findings). -/
theorem spelling_invariant_full (env : Env) (hs : env.var.sortCanonical = true) (he : env.var.eqFold = true)
    {P : Dup.Tag → Prop} (hP : Dup.Adm P) (hD : DefsOK env P) (ph : Bool) {T T' : List ATree}
    (hT : SolidList env.cd T) (hT' : SolidList env.cd T') (h : APointSim (RespellText env) T T')
    (hok : TextOK env P (renderList T)) (hok' : TextOK env P (renderList T')) :
    (errCodes (validate env ph (renderList T))).Perm (errCodes (validate env ph (renderList T'))) :=
  rewrite_printed_invariant env hs he hP hD ph hT hT' ⟨T', h, List.Perm.refl _⟩ hok hok'

/-- **The rewrites of C04**, on texts: blanks next to delimiters or at the ends (any text), and — on printed
annotations — respelling tags and permuting the members of groups; composed freely. -/
inductive Rewrite (env : Env) (Ok : Str → Prop) : Str → Str → Prop
  | refl (s : Str) : Rewrite env Ok s s
  | blank {s s' : Str} : Blank s s' → Ok s → Ok s' → Rewrite env Ok s s'
  | printed {T T' : List ATree} : SolidList env.cd T → SolidList env.cd T' → AForestSim (RespellText env) T T' →
      Ok (renderList T) → Ok (renderList T') → Rewrite env Ok (renderList T) (renderList T')
  | trans {a b c : Str} : Rewrite env Ok a b → Rewrite env Ok b c → Rewrite env Ok a c

/-- **C04 for the whole validator** (`HedValidator.validate`, both values of `allow_placeholders`, the duplicate
rule after the C04 fixes): any composition of the rewrites leaves the multiset of error codes unchanged. -/
theorem rewrite_invariant (env : Env) (hs : env.var.sortCanonical = true) (he : env.var.eqFold = true)
    {P : Dup.Tag → Prop} (hP : Dup.Adm P) (hD : DefsOK env P) (ph : Bool) {Ok : Str → Prop}
    (hOk : ∀ s, Ok s → TextOK env P s) {s s' : Str} (h : Rewrite env Ok s s') :
    (errCodes (validate env ph s)).Perm (errCodes (validate env ph s')) := by
  induction h with
  | refl => exact List.Perm.refl _
  | blank hb o o' => exact spacing_invariant_full env hs he hP hD ph hb (hOk _ o) (hOk _ o')
  | printed hT hT' hA o o' => exact rewrite_printed_invariant env hs he hP hD ph hT hT' hA (hOk _ o) (hOk _ o')
  | trans _ _ ih1 ih2 => exact ih1.trans ih2

/-- **Order and spelling for texts that are not printed canonically**: texts that differ from a printed forest by
blanks next to delimiters or at the ends (`Blank s (renderList T)`), with related forests, get the same error codes. -/
theorem rewrite_invariant_text (env : Env) (hs : env.var.sortCanonical = true) (he : env.var.eqFold = true)
    {P : Dup.Tag → Prop} (hP : Dup.Adm P) (hD : DefsOK env P) (ph : Bool) {s s' : Str} {T T' : List ATree}
    (hT : SolidList env.cd T) (hT' : SolidList env.cd T') (hb : Blank s (renderList T)) (hb' : Blank s' (renderList T'))
    (h : AForestSim (RespellText env) T T')
    (hok : TextOK env P s) (hok' : TextOK env P s')
    (hpr : TextOK env P (renderList T)) (hpr' : TextOK env P (renderList T')) :
    (errCodes (validate env ph s)).Perm (errCodes (validate env ph s')) :=
  ((spacing_invariant_full env hs he hP hD ph hb hok hpr).trans
    (rewrite_printed_invariant env hs he hP hD ph hT hT' h hpr hpr')).trans
    (spacing_invariant_full env hs he hP hD ph hb' hok' hpr').symm

/-- **Model equivalence**: the duplicate rule inside the full validator model is the one of `Model/Dup.lean`
(for which `order_invariant`, `repeated_anywhere`, `no_false_repeat` are proved). -/
theorem dup_rule_is_dup_model (env : Env) (hs : env.var.sortCanonical = true) (he : env.var.eqFold = true)
    {P : Dup.Tag → Prop} (hP : Dup.Adm P) (root : List RNode) (hall : ∀ x ∈ Dup.tagsL (toDupL env root), P x) :
    errCodes (dupIssues env root) = (Dup.issues (toDupL env root)).map (fun i => dupCode i.kind) :=
  dupIssues_eq env hs he hP root hall

/-! ### the hypotheses can be met -/

/-- a small environment: the duplicate rule after the C04 fixes, an empty vocabulary, no definitions -/
def envEx : Env :=
  { var := { sortCanonical := true, eqFold := true, emptyDupSafe := true }, vocab := Schema.Vocab.build fold [],
    ns := [], attrs := #[], mods := [], unitClasses := #[], modern := true, cd := {} }

theorem defsOK_ex : DefsOK envEx ShortClean := by
  intro t rest h
  simp [defExpansion, defLookup, envEx] at h

theorem textOK_ab : TextOK envEx ShortClean ['a', ',', 'b'] := by
  unfold TextOK TagsOK ShortClean Dup.CleanStr
  decide

theorem textOK_a_b : TextOK envEx ShortClean ['a', ',', ' ', 'b'] := by
  unfold TextOK TagsOK ShortClean Dup.CleanStr
  decide

theorem textOK_ba : TextOK envEx ShortClean ['b', ',', 'a'] := by
  unfold TextOK TagsOK ShortClean Dup.CleanStr
  decide

/-- `a,b` and `a, b` -/
example : (errCodes (validate envEx true ['a', ',', 'b'])).Perm (errCodes (validate envEx true ['a', ',', ' ', 'b'])) :=
  spacing_invariant_full envEx rfl rfl shortClean_adm defsOK_ex true
    (Blank.ins (BlankStep.after ['a'] ['b'] ',' rfl)) textOK_ab textOK_a_b

/-- `a,b` and `b,a` -/
example : (errCodes (validate envEx false ['a', ',', 'b'])).Perm (errCodes (validate envEx false ['b', ',', 'a'])) := by
  have ha : SolidText envEx.cd ['a'] := by
    unfold SolidText ValidText
    decide
  have hb : SolidText envEx.cd ['b'] := by
    unfold SolidText ValidText
    decide
  -- with the forests left to unification, the texts of the goal would be matched against `renderList ?T` by
  -- unfolding the validator
  exact order_invariant_full envEx rfl rfl shortClean_adm defsOK_ex false (T := [.tag ['a'], .tag ['b']])
    (T' := [.tag ['b'], .tag ['a']]) ⟨ha, hb, trivial⟩ ⟨hb, ha, trivial⟩ ⟨_, aPointSim_refl _, List.Perm.swap _ _ _⟩
    textOK_ab textOK_ba

end HedVerif.C04
