import HedVerif.Props.C04.Order
import HedVerif.Model.Rewrite

/-! The tree builder reads of the tokens only a sequence of events (tag text, open, close): `construct_ev`. The events
of a text are those of a scan over its characters in which a blank next to a delimiter, or at either end, leaves no
trace (`evs_split`); so such blanks do not change the tree (`evs_blankStep`). -/
namespace HedVerif.Rewrite
open HedVerif Tok Tree

inductive Ev where
  | tag (w : Str)
  | opn
  | cls
deriving Repr, DecidableEq

/-- the parenthesis, if any, at `delimiter_index` of a delimiter token -/
def clsOf (u : Str) : Option Ev :=
  match u.find? (fun c => !pyIsSpace c) with
  | some '(' => some .opn
  | some ')' => some .cls
  | _ => none

def tokEv (s : Str) (t : Token) : Option Ev :=
  if t.isTag then some (.tag (slice s t.start t.stop)) else clsOf (slice s t.start t.stop)

def evs (s : Str) (toks : List Token) : List Ev := toks.filterMap (tokEv s)

theorem evs_cons (s : Str) (t : Token) (l : List Token) : evs s (t :: l) = (tokEv s t).toList ++ evs s l := by
  simp only [evs, List.filterMap_cons]
  cases tokEv s t <;> rfl

theorem evs_reverse (s : Str) (l : List Token) : evs s l.reverse = (evs s l).reverse :=
  List.filterMap_reverse

/-- `split_into_groups` on events, building the abstract forest -/
def stepEv (top : List ATree) (stack : List (List ATree)) : Ev → Except BuildErr (List ATree × List (List ATree))
  | .tag w =>
    match stack with
    | [] => .ok (.tag w :: top, [])
    | f :: fs => .ok (top, (.tag w :: f) :: fs)
  | .opn => .ok (top, [] :: stack)
  | .cls =>
    match stack with
    | [] => .error .closing
    | f :: fs =>
      match fs with
      | [] => .ok (.group f.reverse :: top, [])
      | f2 :: fs2 => .ok (top, (.group f.reverse :: f2) :: fs2)

def buildEv : List ATree → List (List ATree) → List Ev → Except BuildErr (List ATree)
  | top, [], [] => .ok top.reverse
  | _, _ :: _, [] => .error .unmatched
  | top, stack, e :: es =>
    match stepEv top stack e with
    | .error x => .error x
    | .ok (top', stack') => buildEv top' stack' es

def absStack (s : Str) (stack : List Frame) : List (List ATree) := stack.map fun f => absList s f.kids

theorem formList_eq_map (form : Nat → Nat → Str) (l : List Node) : formList form l = l.map (formNode form) := by
  induction l with
  | nil => rfl
  | cons k ks ih => exact congrArg (formNode form k :: ·) ih

theorem absList_reverse (s : Str) (l : List Node) : absList s l.reverse = (absList s l).reverse := by
  rw [absList, formList_eq_map, formList_eq_map, List.map_reverse]

theorem clsOf_eq {u : Str} {ch : Char} (h : u[delimIndex u]? = some ch) :
    clsOf u = (parenOf ch).map fun b => if b then .opn else .cls := by
  unfold delimIndex at h
  unfold clsOf
  rw [List.find?_eq_bind_findIdx?_getElem?]
  cases hf : u.findIdx? (fun c => !pyIsSpace c) with
  | none =>
    have hc : pyIsSpace ch = true := by simpa using List.findIdx?_eq_none_iff.mp hf ch (List.mem_of_getElem? h)
    have hd : isDelim ch = false := Bool.eq_false_iff.mpr fun h => by rw [delim_not_space h] at hc; cases hc
    rw [parenOf_of_not_delim hd]
    rfl
  | some k =>
    rw [hf] at h
    simp only [Option.bind_some, Option.getD_some] at h ⊢
    rw [h, parenOf]
    split <;> simp_all

theorem stepTok_ev (s : Str) (top : List Node) (stack : List Frame) (t : Token) (htok : TokOK s t) :
    (match stepTok s top stack t with
      | .ok (top', stack') => Except.ok (absList s top', absStack s stack')
      | .error e => .error e) =
    (tokEv s t).elim (.ok (absList s top, absStack s stack)) (stepEv (absList s top) (absStack s stack)) := by
  cases htag : t.isTag with
  | true =>
    rw [stepTok_tag s top stack htag, tokEv, if_pos htag]
    cases stack <;> rfl
  | false =>
    obtain ⟨ch, hch, _⟩ := token_shape s t htok htag
    rw [stepTok_delim top stack htag hch, tokEv, if_neg (Bool.eq_false_iff.mp htag), clsOf_eq hch]
    match parenOf ch, stack with
    | none, _ => rfl
    | some true, _ => rfl
    | some false, [] => rfl
    | some false, [f] =>
      exact congrArg (fun g => Except.ok (ATree.group g :: absList s top, [])) (absList_reverse s f.kids)
    | some false, f :: f2 :: fs =>
      exact congrArg (fun g => Except.ok (absList s top, (ATree.group g :: absList s f2.kids) :: absStack s fs))
        (absList_reverse s f.kids)

theorem buildEv_toList (top : List ATree) (stack : List (List ATree)) (o : Option Ev) (es : List Ev) :
    buildEv top stack (o.toList ++ es) =
      match o.elim (.ok (top, stack)) (stepEv top stack) with
      | .error x => .error x
      | .ok (top', stack') => buildEv top' stack' es := by
  cases o with
  | none => rfl
  | some e => cases stack <;> rfl

theorem buildToks_ev (s : Str) : ∀ (toks : List Token) (top : List Node) (stack : List Frame),
    (∀ t ∈ toks, TokOK s t) →
    (match buildToks s top stack toks with
      | .ok r => Except.ok (absList s r)
      | .error e => .error e) = buildEv (absList s top) (absStack s stack) (evs s toks)
  | [], top, stack, _ => by
    cases stack with
    | nil => exact congrArg Except.ok (absList_reverse s top)
    | cons f fs => rfl
  | t :: ts, top, stack, h => by
    rw [evs_cons, buildEv_toList, ← stepTok_ev s top stack t (h t List.mem_cons_self)]
    simp only [buildToks]
    cases stepTok s top stack t with
    | error e => rfl
    | ok r => exact buildToks_ev s ts r.1 r.2 fun x hx => h x (List.mem_cons_of_mem t hx)

/-- **The tree is a function of the events.** -/
theorem construct_ev (s : Str) :
    absList s (construct s) = (match buildEv [] [] (evs s (split s)) with | .ok r => r | .error _ => []) := by
  unfold construct build
  rw [← show _ = buildEv [] [] (evs s (split s)) from buildToks_ev s (split s) [] [] (C02.tiling s).2]
  cases buildToks s [] [] (split s) <;> rfl

def nbs (u : Str) : Str := u.filter (fun c => c != ' ')

theorem nbs_snoc_blank (u : Str) : nbs (u ++ [' ']) = nbs u :=
  (List.filter_append ..).trans (List.append_nil _)

theorem nbs_snoc {c : Char} (hb : c ≠ ' ') (u : Str) : nbs (u ++ [c]) = nbs u ++ [c] := by
  simp [nbs, hb]

theorem clsOf_nbs (u : Str) : clsOf (nbs u) = clsOf u := by
  have h : (fun c : Char => decide ((c != ' ') = true ∧ (!pyIsSpace c) = true)) = fun c => !pyIsSpace c := by
    funext c
    by_cases hc : c = ' '
    · subst hc; rfl
    · simp [hc]
  unfold clsOf nbs
  rw [List.find?_filter, h]

/-- What the tokenizer holds that is not yet a token: a run of delimiters and blanks, kept without its blanks, or a
tag text `w` followed by what was read since its last non-blank (`b` is blanks only; nothing below needs that). -/
inductive Pend where
  | run (v : Str)
  | tag (w b : Str)

/-- The tokenizer on events (latest first). A blank after a delimiter leaves no trace. -/
def feed : List Ev × Pend → Char → List Ev × Pend
  | (es, .run v), c =>
    if c = ' ' then (es, .run v)
    else ((clsOf v).toList ++ es, if isDelim c then .run [c] else .tag [c] [])
  | (es, .tag w b), c =>
    if c = ' ' then (es, .tag w (b ++ [c]))
    else if isDelim c then (.tag w :: es, .run (nbs b ++ [c]))
    else (es, .tag (w ++ b ++ [c]) [])

def close : List Ev × Pend → List Ev
  | (es, .run v) => ((clsOf v).toList ++ es).reverse
  | (es, .tag w b) => ((clsOf b).toList ++ .tag w :: es).reverse

def textEvs (s : Str) : List Ev := close (s.foldl feed ([], .run []))

theorem feed_blank_delim (x : List Ev × Pend) {d : Char} (hd : isDelim d = true) :
    feed (feed x d) ' ' = feed x d ∧ feed (feed x ' ') d = feed x d := by
  have hb := isDelim_ne_space hd
  rcases x with ⟨es, v | ⟨w, b⟩⟩
  · simp [feed, hb, hd]
  · simp [feed, hb, hd, nbs_snoc_blank]

theorem close_feed_blank (x : List Ev × Pend) : close (feed x ' ') = close x := by
  rcases x with ⟨es, v | ⟨w, b⟩⟩
  · simp [feed]
  · simp only [feed, close, ↓reduceIte]
    rw [← clsOf_nbs, nbs_snoc_blank, clsOf_nbs]

/-- a delimiter token that is only made when it is not empty -/
theorem evs_pending (s : Str) (a b : Nat) (out : List Token) (p : Prop) [Decidable p] (hp : ¬p → a = b) :
    evs s (if p then ⟨false, a, b⟩ :: out else out) = (clsOf (slice s a b)).toList ++ evs s out := by
  by_cases h : p
  · simp only [h, ↓reduceIte, evs_cons, tokEv, Bool.false_eq_true]
  · simp [h, ← hp h, slice_self, clsOf]

/-- `x` is what the tokenizer in state `st`, `i` characters into `s`, has seen and holds. -/
def Reads (s : Str) (i : Nat) (st : St) : List Ev × Pend → Prop
  | (es, .run v) => es = evs s st.out ∧ st.found = true ∧ st.tagStart = none ∧
      ∃ le, st.lastEnd = some le ∧ le ≤ i ∧ v = nbs (slice s le i)
  | (es, .tag w b) => es = evs s st.out ∧ st.found = false ∧ st.lastEnd = none ∧
      ∃ ts j, st.tagStart = some ts ∧ ts ≤ j ∧ j + st.spacing = i ∧ w = slice s ts j ∧ b = slice s j i

theorem reads_init (s : Str) : Reads s 0 {} ([], .run []) :=
  ⟨rfl, rfl, rfl, 0, rfl, Nat.le_refl 0, rfl⟩

theorem reads_step {s : Str} {i : Nat} {st : St} {x : List Ev × Pend} {c : Char} (h : Reads s i st x)
    (hc : s[i]? = some c) : Reads s (i + 1) (step st i c) (feed x c) := by
  rcases x with ⟨es, v | ⟨w, b⟩⟩
  · obtain ⟨rfl, hf, ht, le, hl, hle, rfl⟩ := h
    by_cases hb : c = ' '
    · subst hb  -- on a blank `step` and `feed` compute
      exact ⟨rfl, hf, ht, le, hl, Nat.le_succ_of_le hle, by rw [slice_snoc hc hle, nbs_snoc_blank]⟩
    · simp only [feed, hb, ↓reduceIte]
      have hev : (clsOf (nbs (slice s le i))).toList ++ evs s st.out = _ :=
        clsOf_nbs _ ▸ (evs_pending s le i st.out ((le != i) = true) (by simp)).symm
      have hnew := (slice_single hc).symm
      cases hd : isDelim c with
      | true =>
        rw [step_delim_gap i hd hf hl]
        exact ⟨hev, hf, ht, i, rfl, Nat.le_succ i, by rw [← hnew]; exact (nbs_snoc hb []).symm⟩
      | false =>
        rw [step_char_gap i hb hd hf hl ht]
        exact ⟨hev, rfl, rfl, i, i + 1, rfl, Nat.le_succ i, rfl, hnew, (slice_self s (i + 1)).symm⟩
  · obtain ⟨rfl, hf, hl, ts, j, ht, htj, rfl, rfl, rfl⟩ := h
    have hji : j ≤ j + st.spacing := Nat.le_add_right j _
    by_cases hb : c = ' '
    · subst hb
      exact ⟨rfl, hf, hl, ts, j, ht, htj, rfl, rfl, (slice_snoc hc hji).symm⟩
    · simp only [feed, hb, ↓reduceIte]
      cases hd : isDelim c with
      | true =>
        rw [step_delim_tag _ hd hf ht, Nat.add_sub_cancel]
        exact ⟨rfl, rfl, rfl, j, rfl, Nat.le_succ_of_le hji, by rw [slice_snoc hc hji, nbs_snoc hb]⟩
      | false =>
        rw [step_char_tag _ hb hd hf ht]
        have hti := Nat.le_trans htj hji
        refine ⟨rfl, hf, hl, ts, j + st.spacing + 1, ht, Nat.le_succ_of_le hti, rfl, ?_, (slice_self s _).symm⟩
        rw [← slice_split s ts j _ htj hji, ← slice_snoc hc hti]

theorem reads_run {s : Str} : ∀ (cs : Str) {st : St} {i : Nat} {x : List Ev × Pend}, Reads s i st x → At s i cs →
    Reads s (i + cs.length) (run st i cs) (cs.foldl feed x)
  | [], _, _, _, h, _ => h
  | c :: cs, st, i, x, h, ha => by
    rw [at_cons] at ha
    have := reads_run cs (reads_step h ha.1) ha.2
    rwa [Nat.add_assoc, Nat.add_comm 1] at this

theorem reads_close {s : Str} {st : St} {x : List Ev × Pend} (h : Reads s s.length st x) :
    evs s (finish st s.length) = close x := by
  rcases x with ⟨es, v | ⟨w, b⟩⟩
  · obtain ⟨rfl, hf, ht, le, hl, hle, rfl⟩ := h
    rw [finish_gap _ hl ht, evs_reverse, evs_pending s le s.length st.out _ (by simp), close, clsOf_nbs]
  · obtain ⟨rfl, hf, hl, ts, j, ht, htj, hj, rfl, rfl⟩ := h
    rw [finish_tag _ hl ht, evs_reverse, Nat.sub_eq_of_eq_add hj.symm,
      evs_pending s j s.length _ _ (by simp; omega)]
    rfl

/-- **The events of a text are those of a scan that does not see blanks next to delimiters.** -/
theorem evs_split (s : Str) : evs s (split s) = textEvs s :=
  reads_close (Nat.zero_add s.length ▸ reads_run s (reads_init s) (at_self s))

/-- **Blanks next to delimiters do not change what the tree builder sees.** -/
theorem evs_blankStep {s s' : Str} (h : BlankStep s s') : evs s (split s) = evs s' (split s') := by
  rw [evs_split, evs_split]
  cases h with
  | start => rfl
  | stop => rw [textEvs, textEvs, List.foldl_append, List.foldl_cons, List.foldl_nil, close_feed_blank]
  | after a b d hd => simp only [textEvs, List.foldl_append, List.foldl_cons, (feed_blank_delim _ hd).1]
  | before a b d hd => simp only [textEvs, List.foldl_append, List.foldl_cons, (feed_blank_delim _ hd).2]

end HedVerif.Rewrite
