import HedVerif.Props.C04.TokSim
import HedVerif.Props.C01
import HedVerif.Model.Rewrite

namespace HedVerif.Rewrite
open HedVerif HedVerif.Validate HedVerif.Generated.CodeMap

@[simp] theorem sigs_nil : sigs [] = [] := rfl
@[simp] theorem sigs_append (a b : List Issue) : sigs (a ++ b) = sigs a ++ sigs b := by simp [sigs]
@[simp] theorem sigs_cons (a : Issue) (b : List Issue) : sigs (a :: b) = sig a :: sigs b := rfl
@[simp] theorem sigs_ite (c : Prop) [Decidable c] (a b : List Issue) :
    sigs (if c then a else b) = if c then sigs a else sigs b := by split <;> rfl
@[simp] theorem sig_ite (c : Prop) [Decidable c] (a b : Issue) :
    sig (if c then a else b) = if c then sig a else sig b := by split <;> rfl
@[simp] theorem sigs_flatMap {α} (l : List α) (f : α → List Issue) :
    sigs (l.flatMap f) = l.flatMap (fun x => sigs (f x)) := by simp [sigs, List.map_flatMap]
@[simp] theorem sigs_map {α} (l : List α) (f : α → Issue) : sigs (l.map f) = l.map (fun x => sig (f x)) := by
  simp [sigs]
/-! Not proved by `rfl`: `simp` would then also use them in its definitional passes over every subterm, which is
many times slower on the rules below. -/
@[simp] theorem sig_mk (k : Kind) (c : Str) (s : Nat) (sp sb : Option (Nat × Nat)) (ch : Option Nat) (tx : Option Str) :
    sig ⟨k, c, s, sp, sb, ch, tx⟩ = (c, s) := Prod.ext rfl rfl
@[simp] theorem sig_tagIssue (k : Kind) (t : RTag) : sig (tagIssue k t) = (k.code, k.sev) := Prod.ext rfl rfl
@[simp] theorem sig_subIssue (k : Kind) (t : RTag) (a b : Nat) : sig (subIssue k t a b) = (k.code, k.sev) :=
  Prod.ext rfl rfl
@[simp] theorem sig_plain (k : Kind) : sig (Issue.plain k) = (k.code, k.sev) := Prod.ext rfl rfl
@[simp] theorem code_tagIssue (k : Kind) (t : RTag) : (tagIssue k t).code = k.code :=
  congrArg Prod.fst (sig_tagIssue k t)
@[simp] theorem sev_tagIssue (k : Kind) (t : RTag) : (tagIssue k t).sev = k.sev := congrArg Prod.snd (sig_tagIssue k t)
@[simp] theorem code_subIssue (k : Kind) (t : RTag) (a b : Nat) : (subIssue k t a b).code = k.code :=
  congrArg Prod.fst (sig_subIssue k t a b)
@[simp] theorem sev_subIssue (k : Kind) (t : RTag) (a b : Nat) : (subIssue k t a b).sev = k.sev :=
  congrArg Prod.snd (sig_subIssue k t a b)
@[simp] theorem code_plain (k : Kind) : (Issue.plain k).code = k.code := congrArg Prod.fst (sig_plain k)
@[simp] theorem sev_plain (k : Kind) : (Issue.plain k).sev = k.sev := congrArg Prod.snd (sig_plain k)

def ecOf (l : List (Str × Nat)) : List Str := l.filterMap fun p => if p.2 < sevWarning then some p.1 else none

theorem errCodes_eq (l : List Issue) : errCodes l = ecOf (sigs l) := by
  induction l with
  | nil => rfl
  | cons x xs ih =>
    simp only [errCodes, errors, codes, sigs, ecOf, List.map_cons, List.filterMap_cons, sig] at ih ⊢
    by_cases hx : x.sev < sevWarning <;> simp [Issue.isError, hx, ih]

theorem errCodes_of_sigs {a b : List Issue} (h : sigs a = sigs b) : errCodes a = errCodes b := by
  rw [errCodes_eq, errCodes_eq, h]

theorem errCodes_singleton (i : Issue) : errCodes [i] = ecOf [sig i] := errCodes_eq [i]

theorem errCodes_of_sigs_perm {a b : List Issue} (h : (sigs a).Perm (sigs b)) : (errCodes a).Perm (errCodes b) := by
  rw [errCodes_eq, errCodes_eq]; exact h.filterMap _

theorem errCodes_nil : errCodes [] = [] := rfl

theorem errCodes_ite (c : Prop) [Decidable c] (a b : List Issue) :
    errCodes (if c then a else b) = if c then errCodes a else errCodes b := by split <;> rfl

theorem errCodes_append (a b : List Issue) : errCodes (a ++ b) = errCodes a ++ errCodes b := by
  simp [errCodes, errors, codes]

theorem errCodes_flatMap {α : Type} (l : List α) (f : α → List Issue) :
    errCodes (l.flatMap f) = l.flatMap (fun x => errCodes (f x)) := by
  simp only [errCodes, errors, codes, List.filter_flatMap, List.map_flatMap]

theorem errCodes_map {α : Type} (f : α → Issue) (l : List α) :
    errCodes (l.map f) = l.flatMap fun x => errCodes [f x] := by
  rw [List.map_eq_flatMap, errCodes_flatMap]

theorem hasError_eq (l : List Issue) : hasError l = !(errCodes l).isEmpty := by
  rw [errCodes, codes, List.isEmpty_map, Bool.eq_iff_iff, Bool.not_eq_true', List.isEmpty_eq_false_iff, ne_eq,
    ← C01.hasError_eq_false_iff, Bool.not_eq_false]

theorem hasError_congr {a b : List Issue} (h : (errCodes a).Perm (errCodes b)) : hasError a = hasError b := by
  rw [hasError_eq, hasError_eq, h.isEmpty_eq]

theorem errCodes_guard {a a' b b' : List Issue} (ha : (errCodes a).Perm (errCodes a'))
    (hb : hasError a = false → hasError a' = false → (errCodes b).Perm (errCodes b')) :
    (errCodes (if hasError a then a else a ++ b)).Perm (errCodes (if hasError a' then a' else a' ++ b')) := by
  have he := hasError_congr ha
  cases h : hasError a
  · rw [← he, h, if_neg Bool.false_ne_true, if_neg Bool.false_ne_true, errCodes_append, errCodes_append]
    exact ha.append (hb h (he ▸ h))
  · rw [← he, h, if_pos rfl, if_pos rfl]
    exact ha

/-- **Composition.** `validate` short-circuits on "any error so far" only; so phase-wise equal error-code
multisets give equal error-code multisets of the whole validation. -/
theorem validateP_congr (env : Env) (ph : Bool) (text text' : Str) (p p' : Parsed)
    (hS : (errCodes (stringIssues env ph text p)).Perm (errCodes (stringIssues env ph text' p')))
    (hNA : isNA env p.root0 = isNA env p'.root0)
    (hT : (errCodes (tagIssues env ph p)).Perm (errCodes (tagIssues env ph p')))
    (hM : (errCodes (semIssues env ph text.length p)).Perm (errCodes (semIssues env ph text'.length p')))
    (hF : hasError (basicP env ph text p) = false → hasError (basicP env ph text' p') = false →
      (errCodes (fullIssues env text.length p)).Perm (errCodes (fullIssues env text'.length p'))) :
    (errCodes (validateP env ph text p)).Perm (errCodes (validateP env ph text' p')) := by
  have hST := hS.append hT
  rw [← errCodes_append, ← errCodes_append] at hST
  have hB : (errCodes (basicP env ph text p)).Perm (errCodes (basicP env ph text' p')) := by
    unfold basicP
    simp only [← hasError_congr hS, ← hNA]
    -- the tests are reduced before `exact`, which would otherwise unfold the phases to compare them
    cases hasError (stringIssues env ph text p)
    · rw [if_neg Bool.false_ne_true, if_neg Bool.false_ne_true]
      cases isNA env p.root0
      · rw [if_neg Bool.false_ne_true, if_neg Bool.false_ne_true]
        exact errCodes_guard hST fun _ _ => hM
      · rw [if_pos rfl, if_pos rfl]
        exact hS
    · rw [if_pos rfl, if_pos rfl]
      exact hS
  unfold validateP
  exact errCodes_guard hB hF


section core
variable {env : Env} {t t' : RTag}

theorem Core.refl (t : RTag) : Core t t := ⟨rfl, rfl, rfl, fun _ => rfl⟩
theorem Core.extension (h : Core t t') : extension t' = extension t := by
  unfold Validate.extension
  rw [h.ext]
theorem Core.byEntry {α : Type} (h : Core t t') (F : Str → Nat → Str → α) (G : Str → α) :
    (match t'.entry with | some e => F t'.ns e t'.extVal | none => G t'.org) =
      (match t.entry with | some e => F t.ns e t.extVal | none => G t.org) := by
  rw [h.entry, h.ns, h.ext]
  cases he : t.entry with
  | none => rw [h.org he]
  | some e => rfl

theorem Core.entryAttr (h : Core t t') : entryAttr env t' = entryAttr env t :=
  h.byEntry (fun _ e _ => env.attr e) (fun _ => {})
theorem Core.baseAttr (h : Core t t') : baseAttr env t' = baseAttr env t := by
  unfold Validate.baseAttr
  rw [h.entry]
theorem Core.strOf (h : Core t t') : strOf env t' = strOf env t :=
  h.byEntry (fun ns e ext => ns ++ env.vocab.shortName e ++ ext) id
theorem Core.shortBase (h : Core t t') : shortBase env t' = shortBase env t :=
  h.byEntry (fun _ e _ => env.vocab.shortName e) id
theorem Core.longTag (h : Core t t') : longTag env t' = longTag env t :=
  h.byEntry (fun ns e ext => ns ++ env.vocab.longName e ++ ext) id
theorem Core.defLabel (h : Core t t') : defLabel t' = defLabel t := by
  unfold Validate.defLabel
  rw [h.extension]
theorem Core.defValue (h : Core t t') : defValue t' = defValue t := by
  unfold Validate.defValue
  rw [h.extension]

theorem existsIssues_core (h : Core t t') : sigs (existsIssues env t') = sigs (existsIssues env t) := by
  unfold existsIssues
  simp only [h.extension, h.entryAttr, h.entry, sigs_ite, sigs_cons, sigs_nil, sig_subIssue, sig_mk, sev_tagIssue]

/-- code and severity of what `_check_value_class` reports; the tag reported on only fixes the positions -/
def valueClassSigs (a : TagAttr) (sv : Str) : List (Str × Nat) :=
  if !a.takesValue then [] else
  if a.valueClasses.isEmpty then [] else
  if a.valueClasses.any (fun c => wordValid c sv && (problemChars c sv).isEmpty) then [] else
  a.valueClasses.flatMap fun c =>
    if !wordValid c sv then [(Kind.valueClassValue.code, Kind.valueClassValue.sev)]
    else (problemChars c sv).map fun e =>
      if e.2 == '{' || e.2 == '}' then (Kind.curlyBrace.code, Kind.curlyBrace.sev)
      else (Kind.valueClassChar.code, Kind.valueClassChar.sev)

theorem valueClassIssues_sigs (t : RTag) (sv : Str) :
    sigs (valueClassIssues env t sv) = valueClassSigs (entryAttr env t) sv := by
  unfold valueClassIssues valueClassSigs
  simp only [sigs_ite, sigs_nil, sigs_flatMap, sigs_cons, sig_mk, sev_subIssue, sigs_map, sig_ite, sig_subIssue,
    code_subIssue]

theorem map_relocate {γ : Type} {f : Char × Nat × Nat → γ} {f' : Nat × Char → γ}
    (hf : ∀ ch i j k, f (ch, i, j) = f' (k, ch)) {text : Str} {es : List (Nat × Char)} {a : Nat} :
    (relocate text a es).map f = es.map f' := by
  induction es generalizing a with
  | nil => rfl
  | cons e es ih =>
    simp only [relocate]
    cases findCharFrom text e.2 a <;> simp only [List.map_cons, hf _ _ _ e.1, ih]

theorem valueClassIssuesAs_sigs (orig rep : RTag) (sv : Str) :
    sigs (valueClassIssuesAs env orig rep sv) = valueClassSigs (entryAttr env orig) sv := by
  unfold valueClassIssuesAs valueClassSigs
  simp only [sigs_ite, sigs_nil, sigs_flatMap, sigs_cons, sig_mk, sev_subIssue, sigs_map, sig_ite, sig_subIssue,
    code_subIssue]
  -- the guards are the same on both sides; what differs is how the problem characters are located
  refine ite_congr rfl (fun _ => rfl) fun _ => ite_congr rfl (fun _ => rfl) fun _ =>
    ite_congr rfl (fun _ => rfl) fun _ => ?_
  congr 1
  funext c
  refine ite_congr rfl (fun _ => rfl) fun _ => ?_
  cases env.var.defCharRelocate
  · rw [if_neg Bool.false_ne_true, List.map_map]
    rfl
  · rw [if_pos rfl]
    exact map_relocate fun _ _ _ _ => rfl

theorem invalidCharsFrom_sigs (cd : CharData) (allowed : List Char) (t t' : RTag) (o : Option Str) (s : Str)
    (i i' : Nat) : sigs (invalidCharsFrom cd allowed t' o i' s) = sigs (invalidCharsFrom cd allowed t o i s) := by
  induction s generalizing i i' with
  | nil => rfl
  | cons c cs ih =>
    simp only [invalidCharsFrom, sigs_append, sigs_ite, sigs_nil, sigs_cons, sig_mk, sev_subIssue, ih (i + 1) (i' + 1)]

theorem validateUnits_core (h : Core t t') (text : Str) :
    sigs (validateUnits env t' text) = sigs (validateUnits env t text) := by
  unfold validateUnits unitIssues extensionCharIssues valueText unitFound strippedText tagUnitClasses
  simp only [h.entryAttr, h.extension, sigs_ite, sigs_nil, sigs_append, sigs_cons, sig_tagIssue,
    valueClassIssues_sigs,
    invalidCharsFrom_sigs env.cd _ t t' none text ((orgBase t).length + 1) ((orgBase t').length + 1)]

theorem withErrorCode_sigs (code : Str) (l : List Issue) :
    sigs (withErrorCode code l) = match sigs l with
      | [] => []
      | s :: _ => if (sigs l).any (·.1 == code) then sigs l else sigs l ++ [(code, s.2)] := by
  cases l with
  | nil => rfl
  | cons i is =>
    have hany : (sigs (i :: is)).any (·.1 == code) = (i :: is).any (·.code == code) := List.any_map
    simp only [withErrorCode, sigs_ite, sigs_append, sigs_cons, sigs_nil, sig_mk]
    rw [← hany]
    rfl

theorem defUnits_sigs (p rep rep' : RTag) (text code : Str) :
    sigs (defUnits env p rep' text code) = sigs (defUnits env p rep text code) := by
  unfold defUnits
  simp only [sigs_ite, withErrorCode_sigs, sigs_append, sigs_cons, sigs_nil, sig_tagIssue, valueClassIssuesAs_sigs]

theorem defPlaceholder_core (h : Core t t') : defPlaceholder env t' = defPlaceholder env t := by
  unfold defPlaceholder
  rw [h.defLabel, h.defValue]

theorem defValueIssues_core (h : Core t t') : sigs (defValueIssues env t') = sigs (defValueIssues env t) := by
  unfold defValueIssues
  rw [h.defLabel, defPlaceholder_core h, h.shortBase]
  cases defLookup env (defLabel t) with
  | none => rfl
  | some e =>
    simp only [sigs_append, valueClassIssues_sigs, h.entryAttr]
    cases defPlaceholder env t with
    | none => rfl
    | some p => simp only [defUnits_sigs p t t']

theorem errCodes_styleIssues (t : RTag) : errCodes (styleIssues t) = [] := by
  have warn : ecOf [(Kind.style.code, Kind.style.sev)] = [] := by decide
  rw [errCodes_eq, styleIssues, sigs_ite, sigs_cons, sig_tagIssue]
  split
  · exact warn
  · rfl

theorem placeholderFrom_sigs (t t' : RTag) (s : Str) (a a' i i' : Nat) :
    sigs (placeholderFrom t' a' i' s) = sigs (placeholderFrom t a i s) := by
  induction s generalizing i i' with
  | nil => rfl
  | cons c cs ih =>
    simp only [placeholderFrom, sigs_append, sigs_ite, sigs_cons, sigs_nil, sig_mk, sev_subIssue, ih (i + 1) (i' + 1)]

theorem individualIssues_core (h : Core t t') (ph b : Bool) :
    errCodes (individualIssues env ph b t') = errCodes (individualIssues env ph b t) := by
  unfold individualIssues placeholderIssues
  simp only [errCodes_append, errCodes_ite, errCodes_styleIssues, errCodes_of_sigs (existsIssues_core h), h.entryAttr,
    h.extension, errCodes_of_sigs (placeholderFrom_sigs t t' _ ((orgBase t).length + 1) _ 0 0), errCodes_singleton, sig_tagIssue]

theorem tagSemIssues_core (h : Core t t') (ph b : Bool) :
    errCodes (tagSemIssues env ph b t') = errCodes (tagSemIssues env ph b t) := by
  unfold tagSemIssues
  simp only [errCodes_append, errCodes_ite, h.shortBase, h.extension, individualIssues_core h ph b,
    errCodes_of_sigs (defValueIssues_core h), errCodes_of_sigs (validateUnits_core h _), errCodes_singleton, sig_tagIssue]

end core

/-! ### trees: everything is a `flatMap` over nodes -/

theorem tagsList_eq (l : List RNode) : tagsList l = l.flatMap tagsNode := by
  induction l with
  | nil => rfl
  | cons k ks ih => simp [tagsList, ih]

theorem mem_tagsList {l : List RNode} {k : RNode} {x : RTag} (hk : k ∈ l) (hx : x ∈ tagsNode k) : x ∈ tagsList l := by
  rw [tagsList_eq]
  exact List.mem_flatMap.mpr ⟨k, hk, hx⟩

theorem groupsList_eq (top : Bool) (l : List RNode) : groupsList top l = l.flatMap (groupsNode top) := by
  induction l with
  | nil => rfl
  | cons k ks ih => simp [groupsList, ih]

def directTagsOf : RNode → List RTag
  | .tag t => [t]
  | .group _ _ => []

theorem directTags_eq (l : List RNode) : directTags l = l.flatMap directTagsOf := by
  induction l with
  | nil => rfl
  | cons k ks ih => cases k <;> simp [directTags, directTagsOf, ih]

theorem mem_directTags {l : List RNode} {t : RTag} : t ∈ directTags l ↔ RNode.tag t ∈ l := by
  induction l with
  | nil => simp [directTags]
  | cons k ks ih => cases k <;> simp [directTags, ih]

def directGroupsOf : RNode → List ((Nat × Nat) × List RNode)
  | .tag _ => []
  | .group s k => [(s, k)]

theorem directGroups_eq (l : List RNode) : directGroups l = l.flatMap directGroupsOf := by
  induction l with
  | nil => rfl
  | cons k ks ih => cases k <;> simp [directGroups, directGroupsOf, ih]

/-- negated, with `p t := shortBase env t == delayKey`, the Delay filter of `onsetGroupIssues` -/
def tagIs (p : RTag → Bool) : RNode → Bool
  | .tag t => p t
  | .group _ _ => false

theorem filter_flatMap {α β : Type} (p : α → Bool) (f : α → List β) (l : List α) :
    (l.filter p).flatMap f = l.flatMap (fun x => if p x then f x else []) := by
  induction l with
  | nil => rfl
  | cons x xs ih =>
    rw [List.filter_cons, List.flatMap_cons, ← ih]
    split <;> rfl

theorem filter_map_eq_flatMap {α β : Type} (p : α → Bool) (f : α → β) (l : List α) :
    (l.filter p).map f = l.flatMap (fun x => if p x then [f x] else []) := by
  rw [List.map_eq_flatMap, filter_flatMap]

theorem length_filter_of_perm {α : Type} {p p' : α → Bool} {l l' : List α}
    (h : (l.flatMap fun t => if p t then [()] else []).Perm (l'.flatMap fun t => if p' t then [()] else [])) :
    (l.filter p).length = (l'.filter p').length := by
  have := h.length_eq
  rwa [← filter_map_eq_flatMap p fun _ => (), ← filter_map_eq_flatMap p' fun _ => (), List.length_map,
    List.length_map] at this

theorem tree_ind {P : RNode → Prop} {Q : List RNode → Prop} (tag : ∀ t, P (.tag t))
    (group : ∀ s ks, Q ks → P (.group s ks)) (nil : Q []) (cons : ∀ k ks, P k → Q ks → Q (k :: ks)) :
    (∀ k, P k) ∧ (∀ l, Q l) :=
  ⟨fun k => RNode.rec (motive_1 := P) (motive_2 := Q) tag group nil cons k,
   fun l => RNode.rec_1 (motive_1 := P) (motive_2 := Q) tag group nil cons l⟩

section sim
variable {R : RTag → RTag → Prop}

theorem NodeSim.byCases {motive : (k k' : RNode) → NodeSim R k k' → Prop}
    (tag : ∀ t t' (h : R t t'), motive (.tag t) (.tag t') h)
    (group : ∀ s s' ks ks' (h : ForestSim R ks ks'), motive (.group s ks) (.group s' ks') h)
    (k k' : RNode) (h : NodeSim R k k') : motive k k' h := by
  cases k <;> cases k'
  · exact tag _ _ h
  · exact False.elim h
  · exact False.elim h
  · exact group _ _ _ _ h

/-- induction along two related trees; the cases in which the shapes differ are dealt with here, once -/
theorem sim_ind {P : RNode → RNode → Prop} {Q : List RNode → List RNode → Prop}
    (tag : ∀ t t', R t t' → P (.tag t) (.tag t'))
    (group : ∀ s s' ks m ks', PointSim R ks m → m.Perm ks' → Q ks m → P (.group s ks) (.group s' ks'))
    (nil : Q [] [])
    (cons : ∀ k k' ks ms, NodeSim R k k' → PointSim R ks ms → P k k' → Q ks ms → Q (k :: ks) (k' :: ms)) :
    (∀ (k k' : RNode), NodeSim R k k' → P k k') ∧ (∀ (l m : List RNode), PointSim R l m → Q l m) :=
  NodeSim.mutual_induct (fun k k' => NodeSim R k k' → P k k') (fun l m => PointSim R l m → Q l m)
    (fun t t' h => tag t t' h)
    (fun s ks s' ks' ih ⟨m, hm, hp⟩ => group s s' ks m ks' hm hp (ih m hm))
    (fun _ _ _ h => h.elim)
    (fun _ _ _ h => h.elim)
    (fun _ => nil)
    (fun k ks k' ms ih1 ih2 h => cons k k' ks ms h.1 h.2 (ih1 h.1) (ih2 h.2))
    (fun _ _ h => h.elim)
    (fun _ _ h => h.elim)

theorem PointSim.ind {Q : List RNode → List RNode → Prop} (nil : Q [] [])
    (cons : ∀ k k' ks ms, NodeSim R k k' → PointSim R ks ms → Q ks ms → Q (k :: ks) (k' :: ms)) :
    ∀ (l m : List RNode), PointSim R l m → Q l m :=
  (sim_ind (P := fun _ _ => True) (fun _ _ _ => trivial) (fun _ _ _ _ _ _ _ _ => trivial) nil
    fun k k' ks ms hk hs _ ih => cons k k' ks ms hk hs ih).2

theorem PointSim.length : ∀ {l m : List RNode}, PointSim R l m → l.length = m.length :=
  fun {l m} => PointSim.ind (Q := fun l m => l.length = m.length) rfl (fun _ _ _ _ _ _ ih => congrArg (· + 1) ih) l m

theorem PointSim.flatMap_perm {β : Type} (φ φ' : RNode → List β) {l m : List RNode} (h : PointSim R l m) :
    (∀ k ∈ l, ∀ k' ∈ m, NodeSim R k k' → (φ k).Perm (φ' k')) → (l.flatMap φ).Perm (m.flatMap φ') := by
  refine PointSim.ind (Q := fun l m => (∀ k ∈ l, ∀ k' ∈ m, NodeSim R k k' → (φ k).Perm (φ' k')) →
    (l.flatMap φ).Perm (m.flatMap φ')) (fun _ => .refl _) (fun k k' ks ms hk _ ih hφ => ?_) l m h
  simp only [List.flatMap_cons]
  exact (hφ k List.mem_cons_self k' List.mem_cons_self hk).append
    (ih fun x hx x' hx' => hφ x (List.mem_cons_of_mem _ hx) x' (List.mem_cons_of_mem _ hx'))

theorem ForestSim.flatMap_perm {β : Type} (φ φ' : RNode → List β) {l l' : List RNode} (h : ForestSim R l l')
    (hφ : ∀ k ∈ l, ∀ k' ∈ l', NodeSim R k k' → (φ k).Perm (φ' k')) : (l.flatMap φ).Perm (l'.flatMap φ') := by
  obtain ⟨m, hm, hp⟩ := h
  exact (hm.flatMap_perm φ φ' (fun k hk k' hk' => hφ k hk k' (hp.mem_iff.mp hk'))).trans (hp.flatMap_right φ')

theorem ForestSim.length_eq {l l' : List RNode} (h : ForestSim R l l') : l.length = l'.length := by
  obtain ⟨m, hm, hp⟩ := h
  rw [hm.length, hp.length_eq]

theorem ForestSim.map_perm {β : Type} {g g' : RNode → β} (hg : ∀ k k', NodeSim R k k' → g k = g' k')
    {l l' : List RNode} (h : ForestSim R l l') : (l.map g).Perm (l'.map g') := by
  rw [List.map_eq_flatMap, List.map_eq_flatMap]
  exact h.flatMap_perm _ _ fun k _ k' _ hk => by rw [hg k k' hk]

theorem ForestSim.countP_eq (p p' : RNode → Bool) (hp : ∀ k k', NodeSim R k k' → p k = p' k')
    {l l' : List RNode} (h : ForestSim R l l') : l.countP p = l'.countP p' := by
  have := (h.map_perm hp).countP_eq id
  rwa [List.countP_map, List.countP_map] at this

theorem NodeSim.tagIs_eq {p p' : RTag → Bool} (hp : ∀ t t', R t t' → p t = p' t') {k k' : RNode}
    (h : NodeSim R k k') : tagIs p k = tagIs p' k' :=
  NodeSim.byCases (motive := fun k k' _ => tagIs p k = tagIs p' k') hp (fun _ _ _ _ _ => rfl) k k' h

theorem NodeSim.tags_flatMap {β : Type} (F F' : RTag → List β) (hF : ∀ t t', R t t' → (F t).Perm (F' t')) :
    ∀ (k k' : RNode), NodeSim R k k' → ((tagsNode k).flatMap F).Perm ((tagsNode k').flatMap F') :=
  (sim_ind
    (Q := fun l m => (l.flatMap fun k => (tagsNode k).flatMap F).Perm (m.flatMap fun k => (tagsNode k).flatMap F'))
    (fun t t' h => by simpa [tagsNode] using hF t t' h)
    (fun _ _ ks m ks' _ hp ih => by
      simp only [tagsNode, tagsList_eq, List.flatMap_assoc]
      exact ih.trans (hp.flatMap_right _))
    (.refl _)
    (fun _ _ _ _ _ _ h1 h2 => by
      simp only [List.flatMap_cons]
      exact h1.append h2)).1

theorem ForestSim.tags_flatMap {β : Type} {F F' : RTag → List β} (hF : ∀ t t', R t t' → (F t).Perm (F' t'))
    {l l' : List RNode} (h : ForestSim R l l') : ((tagsList l).flatMap F).Perm ((tagsList l').flatMap F') :=
  NodeSim.tags_flatMap F F' hF (.group (0, 0) l) (.group (0, 0) l') h

theorem ForestSim.directTags_flatMap_mem {β : Type} {F F' : RTag → List β} {l l' : List RNode} (h : ForestSim R l l')
    (hF : ∀ t ∈ directTags l, ∀ t' ∈ directTags l', R t t' → (F t).Perm (F' t')) :
    ((directTags l).flatMap F).Perm ((directTags l').flatMap F') := by
  simp only [directTags_eq, List.flatMap_assoc]
  refine h.flatMap_perm _ _ fun k hk k' hk' hkk => ?_
  induction k, k', hkk using NodeSim.byCases with
  | tag t t' htt => simpa [directTagsOf] using hF t (mem_directTags.mpr hk) t' (mem_directTags.mpr hk') htt
  | group => exact .refl _

theorem ForestSim.directTags_flatMap {β : Type} {F F' : RTag → List β} (hF : ∀ t t', R t t' → (F t).Perm (F' t'))
    {l l' : List RNode} (h : ForestSim R l l') :
    ((directTags l).flatMap F).Perm ((directTags l').flatMap F') :=
  h.directTags_flatMap_mem fun t _ t' _ => hF t t'

theorem ForestSim.directTags_count (p p' : RTag → Bool) (hp : ∀ t t', R t t' → p t = p' t')
    {l l' : List RNode} (h : ForestSim R l l') :
    ((directTags l).filter p).length = ((directTags l').filter p').length :=
  length_filter_of_perm (h.directTags_flatMap fun t t' ht => by rw [hp t t' ht])


theorem groupsList_perm (top : Bool) {m l' : List RNode} (hp : m.Perm l') :
    (groupsList top m).Perm (groupsList top l') := by
  rw [groupsList_eq, groupsList_eq]
  exact hp.flatMap_right _

theorem groupsList_flatMap_of_perm {β : Type} {G G' : GV → List β} (top : Bool) {l m l' : List RNode} (hp : m.Perm l')
    (hG : ∀ g ∈ groupsList top l, ∀ g' ∈ groupsList top l', GVSim R g g' → (G g).Perm (G' g'))
    (hm : (∀ g ∈ groupsList top l, ∀ g' ∈ groupsList top m, GVSim R g g' → (G g).Perm (G' g')) →
      ((groupsList top l).flatMap G).Perm ((groupsList top m).flatMap G')) :
    ((groupsList top l).flatMap G).Perm ((groupsList top l').flatMap G') :=
  (hm fun g hg g' hg' => hG g hg g' ((groupsList_perm top hp).mem_iff.mp hg')).trans
    ((groupsList_perm top hp).flatMap_right G')

theorem groups_flatMap_sim {β : Type} (G G' : GV → List β) :
    (∀ (k k' : RNode), NodeSim R k k' → ∀ (top : Bool),
      (∀ g ∈ groupsNode top k, ∀ g' ∈ groupsNode top k', GVSim R g g' → (G g).Perm (G' g')) →
      ((groupsNode top k).flatMap G).Perm ((groupsNode top k').flatMap G')) ∧
    (∀ (l m : List RNode), PointSim R l m → ∀ (top : Bool),
      (∀ g ∈ groupsList top l, ∀ g' ∈ groupsList top m, GVSim R g g' → (G g).Perm (G' g')) →
      ((groupsList top l).flatMap G).Perm ((groupsList top m).flatMap G')) := by
  refine sim_ind (fun _ _ _ _ _ => .refl _) (fun s s' ks m ks' hm hp ih top hG => ?_) (fun _ _ => .refl _)
    (fun k k' ks ms _ _ ih1 ih2 top hG => ?_)
  · simp only [groupsNode, List.flatMap_cons]
    exact (hG ⟨s, ks, true, top⟩ List.mem_cons_self ⟨s', ks', true, top⟩ List.mem_cons_self
      ⟨rfl, rfl, m, hm, hp⟩).append (groupsList_flatMap_of_perm false hp
        (fun g hg g' hg' => hG g (List.mem_cons_of_mem _ hg) g' (List.mem_cons_of_mem _ hg')) (ih false))
  · simp only [groupsList, List.flatMap_append]
    exact (ih1 top fun g hg g' hg' => hG g (List.mem_append_left _ hg) g' (List.mem_append_left _ hg')).append
      (ih2 top fun g hg g' hg' => hG g (List.mem_append_right _ hg) g' (List.mem_append_right _ hg'))

theorem NodeSim.groups_flatMap {β : Type} {G G' : GV → List β} :
    ∀ (top : Bool) (k k' : RNode), NodeSim R k k' →
      (∀ g ∈ groupsNode top k, ∀ g' ∈ groupsNode top k', GVSim R g g' → (G g).Perm (G' g')) →
      ((groupsNode top k).flatMap G).Perm ((groupsNode top k').flatMap G') :=
  fun top k k' h => (groups_flatMap_sim G G').1 k k' h top

theorem ForestSim.allGroups_flatMap {β : Type} {G G' : GV → List β} {l l' : List RNode} (h : ForestSim R l l')
    (len len' : Nat)
    (hG : ∀ g ∈ allGroups len l, ∀ g' ∈ allGroups len' l', GVSim R g g' → (G g).Perm (G' g')) :
    ((allGroups len l).flatMap G).Perm ((allGroups len' l').flatMap G') := by
  simp only [allGroups, List.flatMap_cons]
  refine (hG ⟨(0, len), l, false, false⟩ List.mem_cons_self ⟨(0, len'), l', false, false⟩ List.mem_cons_self
    ⟨rfl, rfl, h⟩).append ?_
  obtain ⟨m, hm, hp⟩ := h
  exact groupsList_flatMap_of_perm true hp
    (fun g hg g' hg' => hG g (List.mem_cons_of_mem _ hg) g' (List.mem_cons_of_mem _ hg'))
    ((groups_flatMap_sim G G').2 l m hm true)

end sim

/-! ### `multipleTopBad` looks at its argument as a set with multiplicities -/

theorem nodup_eraseDups {α : Type} [BEq α] [LawfulBEq α] : ∀ (l : List α), l.eraseDups.Nodup
  | [] => List.nodup_nil
  | a :: as => by
    rw [List.eraseDups_cons, List.nodup_cons]
    exact ⟨by rw [List.mem_eraseDups]; simp, nodup_eraseDups _⟩
termination_by l => l.length
decreasing_by exact Nat.lt_succ_of_le (List.length_filter_le _ as)

theorem eraseDups_of_nodup {α : Type} [BEq α] [LawfulBEq α] : ∀ (l : List α), l.Nodup → l.eraseDups = l := by
  intro l h
  induction l with
  | nil => rfl
  | cons a as ih =>
    rw [List.nodup_cons] at h
    have : as.filter (fun b => !b == a) = as :=
      List.filter_eq_self.mpr fun b hb => by simpa using fun e : b = a => h.1 (e ▸ hb)
    rw [List.eraseDups_cons, this, ih h.2]

theorem eraseDups_perm {α : Type} [BEq α] [LawfulBEq α] {l l' : List α} (h : l.Perm l') :
    l.eraseDups.Perm l'.eraseDups :=
  (List.perm_ext_iff_of_nodup (nodup_eraseDups l) (nodup_eraseDups l')).mpr
    (fun a => by rw [List.mem_eraseDups, List.mem_eraseDups, h.mem_iff])

theorem multipleTopBad_perm {l l' : List Str} (h : l.Perm l') : multipleTopBad l = multipleTopBad l' := by
  have hd := eraseDups_perm h
  simp only [multipleTopBad, hd.length_eq, h.length_eq, hd.contains_eq, (hd.filter _).all_eq]

theorem perm_ite {α : Type} {c : Prop} [Decidable c] {a a' b b' : List α} (ha : a.Perm a') (hb : b.Perm b') :
    (if c then a else b).Perm (if c then a' else b') := by
  split
  · exact ha
  · exact hb

section rules
variable {R : RTag → RTag → Prop} {env : Env}

theorem errCodes_head_tagIssue (k : Kind) : ∀ {l l' : List RTag}, l.length = l'.length →
    errCodes (match l with | t :: _ => [tagIssue k t] | [] => []) =
      errCodes (match l' with | t :: _ => [tagIssue k t] | [] => []) := by
  intro l l' h
  cases l <;> cases l'
  · rfl
  · cases h
  · cases h
  · exact errCodes_of_sigs rfl

theorem levelIssues_sim (hR : ∀ t t', R t t' → Core t t') {g g' : GV} (h : GVSim R g g') :
    (errCodes (levelIssues env g)).Perm (errCodes (levelIssues env g')) := by
  obtain ⟨hg, ht, hk⟩ := h
  have hnames : (((directTags g.kids).filter fun t => (baseAttr env t).topLevelTagGroup).map (shortBase env)).Perm
      (((directTags g'.kids).filter fun t => (baseAttr env t).topLevelTagGroup).map (shortBase env)) := by
    rw [filter_map_eq_flatMap, filter_map_eq_flatMap]
    refine hk.directTags_flatMap fun t t' htt => ?_
    rw [(hR t t' htt).baseAttr, (hR t t' htt).shortBase]
  have hlen := hnames.length_eq
  rw [List.length_map, List.length_map] at hlen
  unfold levelIssues
  simp only [errCodes_append, errCodes_flatMap, filter_flatMap, errCodes_ite, hg, ht, multipleTopBad_perm hnames, hlen,
    errCodes_singleton, sig_mk, sig_tagIssue, sev_tagIssue]
  refine ((?_ : List.Perm _ _).append ?_).append ?_
  · refine hk.directTags_flatMap fun t t' htt => ?_
    rw [(hR t t' htt).baseAttr]
  · refine hk.directTags_flatMap fun t t' htt => ?_
    rw [(hR t t' htt).baseAttr, (hR t t' htt).shortBase]
  · exact perm_ite (.of_eq (errCodes_head_tagIssue _ hlen)) (.refl _)

theorem groupIssues_sim (hR : ∀ t t', R t t' → Core t t') {g g' : GV} (h : GVSim R g g') :
    (errCodes (groupIssues env g)).Perm (errCodes (groupIssues env g')) := by
  have hemp : g.kids.isEmpty = g'.kids.isEmpty := by
    rw [Bool.eq_iff_iff, List.isEmpty_iff_length_eq_zero, List.isEmpty_iff_length_eq_zero, h.2.2.length_eq]
  unfold groupIssues
  simp only [errCodes_append, errCodes_ite, errCodes_singleton, sig_mk, hemp, h.1]
  exact (List.Perm.refl _).append (levelIssues_sim hR h)

theorem countPrefix_sim (hR : ∀ t t', R t t' → Core t t') {l l' : List RNode} (h : ForestSim R l l') (p : Str) :
    countPrefix env (tagsList l) p = countPrefix env (tagsList l') p :=
  length_filter_of_perm (h.tags_flatMap fun t t' htt => by rw [(hR t t' htt).longTag])

theorem requiredIssues_sim (hR : ∀ t t', R t t' → Core t t') {l l' : List RNode} (h : ForestSim R l l') :
    requiredIssues env (tagsList l) = requiredIssues env (tagsList l') := by
  unfold requiredIssues
  simp only [countPrefix_sim hR h]

theorem uniqueIssues_sim (hR : ∀ t t', R t t' → Core t t') {l l' : List RNode} (h : ForestSim R l l') :
    uniqueIssues env (tagsList l) = uniqueIssues env (tagsList l') := by
  unfold uniqueIssues
  simp only [countPrefix_sim hR h]

theorem directTags_tree :
    (∀ (k : RNode) (top : Bool),
      (directTagsOf k ++ (groupsNode top k).flatMap fun g => directTags g.kids).Perm (tagsNode k)) ∧
    (∀ (l : List RNode) (top : Bool),
      (directTags l ++ (groupsList top l).flatMap fun g => directTags g.kids).Perm (tagsList l)) := by
  refine tree_ind (fun _ _ => .refl _) (fun s ks ih top => ?_) (fun _ => .refl _) (fun k ks ih1 ih2 top => ?_)
  · simp only [directTagsOf, groupsNode, tagsNode, List.flatMap_cons, List.nil_append]
    exact ih false
  · have hd : directTags (k :: ks) = directTagsOf k ++ directTags ks := by
      cases k <;> rfl
    simp only [hd, groupsList, tagsList, List.flatMap_append]
    refine List.Perm.trans ?_ ((ih1 top).append (ih2 top))
    simp only [List.append_assoc]
    apply List.Perm.append_left
    rw [← List.append_assoc, ← List.append_assoc]
    exact List.Perm.append_right _ List.perm_append_comm

theorem node_directTags (top : Bool) : ∀ (k : RNode),
    (directTagsOf k ++ (groupsNode top k).flatMap fun g => directTags g.kids).Perm (tagsNode k) :=
  fun k => directTags_tree.1 k top

/-- every tag is a direct tag of exactly one group (or of the top level) -/
theorem allGroups_directTags (len : Nat) (root : List RNode) :
    ((allGroups len root).flatMap fun g => directTags g.kids).Perm (tagsList root) := by
  simpa [allGroups] using directTags_tree.2 root true

end rules

/-! ### the duplicate rule of `Model/Validate.lean` is the one of `Model/Dup.lean` -/

section bridge
open HedVerif.Dup (LeK skey Adm CleanStr)

theorem strLt_eq (a b : Str) : Validate.strLt a b = Dup.strLt a b := by
  induction a generalizing b with
  | nil => cases b <;> rfl
  | cons a as ih => cases b <;> simp [Validate.strLt, Dup.strLt, ih]

theorem toDupL_eq_map (env : Env) (l : List RNode) : toDupL env l = l.map (toDup env) := by
  induction l with
  | nil => rfl
  | cons k ks ih => simp [toDupL, ih]

theorem sortKey_tree (env : Env) :
    (∀ (n : RNode), sortKeyNode env n = skey (toDup env n)) ∧
    (∀ (l : List RNode), sortKeyList env l = Dup.renderL Dup.Tag.key (toDupL env l)) := by
  refine tree_ind (fun t => ?_) (fun _ ks ih => ?_) rfl (fun n ks ih1 ih2 => ?_)
  · simp [sortKeyNode, toDup, toDupTag, Dup.render]
  · simp [sortKeyNode, toDup, Dup.render, ih]
  · cases ks with
    | nil => simpa [sortKeyList, toDupL, Dup.renderL] using ih1
    | cons m ns =>
      simp only [sortKeyList, toDupL, Dup.renderL] at ih2 ⊢
      simp only [skey] at ih1
      rw [ih1, ih2]

theorem sortKeyList_eq (env : Env) : ∀ (l : List RNode), sortKeyList env l = Dup.renderL Dup.Tag.key (toDupL env l) :=
  (sortKey_tree env).2

theorem nodeEq_tree (env : Env) (hv : env.var.eqFold = true) :
    (∀ (a b : RNode), nodeEq env a b = Dup.eqv Dup.teq (toDup env a) (toDup env b)) ∧
    (∀ (a b : List RNode), listEq env a b = Dup.eqvL Dup.teq (toDupL env a) (toDupL env b)) := by
  refine tree_ind (fun a b => ?_) (fun _ ka ih b => ?_) (fun b => ?_) (fun a as ih1 ih2 b => ?_)
  · cases b <;> simp [nodeEq, tagEq, hv, toDup, toDupTag, Dup.eqv, Dup.teq]
  · cases b <;> simp [nodeEq, toDup, Dup.eqv, ih]
  · cases b <;> simp [listEq, toDupL, Dup.eqvL]
  · cases b <;> simp [listEq, toDupL, Dup.eqvL, ih1, ih2]

abbrev KEntry := (Str × Str) × RNode

/-- the validator's insertion is the one of `Model/Dup.lean` for the order "not after" -/
theorem insertKeyed_eq (x : KEntry) (l : List KEntry) :
    insertKeyed x l = Dup.insBy (fun y x => !keyLt x.1 y.1) x l := by
  induction l with
  | nil => rfl
  | cons y ys ih =>
    simp only [insertKeyed, Dup.insBy, ih]
    by_cases h : keyLt x.1 y.1 = true <;> simp [h]

/-- the validator inserts from the left, `Dup.sortBy` from the right -/
theorem sortKeyed_eq (l : List KEntry) : sortKeyed l = Dup.sortBy (fun y x => !keyLt x.1 y.1) l.reverse := by
  rw [sortKeyed, List.foldl_eq_foldr_reverse]
  induction l.reverse with
  | nil => rfl
  | cons x xs ih => rw [List.foldr_cons, ih, insertKeyed_eq, Dup.sortBy]

theorem sortKeyed_perm (l : List KEntry) : (sortKeyed l).Perm l :=
  sortKeyed_eq l ▸ (Dup.sortBy_perm _ _).trans (List.reverse_perm l)

theorem sortKeyed_pairwise (l : List KEntry) : (sortKeyed l).Pairwise (LeK fun e : KEntry => e.1.1) := by
  rw [sortKeyed_eq]
  refine Dup.sortBy_pairwise (R := LeK fun e : KEntry => e.1.1) (fun a b c => Dup.strLe_trans _ _ _)
    (fun a b h => ?_) (fun a b h => ?_) _
  · simp only [keyLt, Bool.not_eq_true', Bool.or_eq_false_iff, strLt_eq] at h
    exact h.1
  · simp only [keyLt, Bool.not_eq_false', Bool.or_eq_true, Bool.and_eq_true, beq_iff_eq, strLt_eq] at h
    rcases h with h | ⟨h, _⟩
    · exact Dup.strLt_asymm _ _ h
    · show Dup.strLt a.1.1 b.1.1 = false
      rw [h]
      exact Dup.strLt_irrefl _

theorem isTag_toDup (env : Env) (n : RNode) : Dup.isTag (toDup env n) = isTagNode n := by
  cases n <;> simp [toDup, Dup.isTag, isTagNode]

theorem keyedList_eq_map (env : Env) (l : List RNode) :
    keyedList env l = l.map (fun n =>
      ((if env.var.sortCanonical then sortKeyNode env (sortNode env n) else [], strNode env n), sortNode env n)) := by
  induction l with
  | nil => rfl
  | cons k ks ih => simp [keyedList, ih]

theorem varrange_perm (E : List KEntry) : (Validate.arrange E).Perm (E.map (·.2)) := by
  unfold Validate.arrange
  apply List.Perm.map
  exact ((sortKeyed_perm _).append (sortKeyed_perm _)).trans (List.filter_append_perm _ E)

theorem half_bridge (env : Env) (p : RNode → Bool) (q : Dup.Tree → Bool) (hpq : ∀ n, q (Dup.canon (toDup env n)) = p n)
    (hq : ∀ t, q (Dup.canon t) = q t)
    (E : List KEntry) (D : List Dup.Entry)
    (hkey : ∀ e ∈ E, e.1.1 = skey (toDup env e.2))
    (cE : ∀ e ∈ E, ∀ x ∈ Dup.tags (toDup env e.2), CleanStr x.key) (cD : ∀ e ∈ D, ∀ x ∈ Dup.tags e.2, CleanStr x.key)
    (hmap : E.map (fun e => Dup.canon (toDup env e.2)) = D.map (fun e => Dup.canon e.2)) :
    ((sortKeyed (E.filter fun e => p e.2)).map fun e => Dup.canon (toDup env e.2)) =
      ((Dup.sortBy Dup.ltNew (D.filter fun e => q e.2)).map fun e => Dup.canon e.2) := by
  have memE : ∀ e ∈ sortKeyed (E.filter fun e => p e.2), e ∈ E := fun e he =>
    (List.mem_filter.mp ((sortKeyed_perm _).mem_iff.mp he)).1
  have h1 := Dup.sorted_unique ((sortKeyed (E.filter fun e => p e.2)).map fun e => toDup env e.2)
    ((Dup.sortBy Dup.ltNew (D.filter fun e => q e.2)).map fun e => e.2) ?_ ?_ ?_ ?_ ?_
  · simpa [List.map_map, Function.comp_def] using h1
  · rw [List.pairwise_map]
    refine List.Pairwise.imp_of_mem ?_ (sortKeyed_pairwise _)
    intro a b ha hb hab
    simpa [LeK, hkey a (memE a ha), hkey b (memE b hb)] using hab
  · rw [List.pairwise_map]
    exact Dup.sortNew_pairwise _
  · intro a ha x hx
    obtain ⟨e, he, rfl⟩ := List.mem_map.mp ha
    exact cE e (memE e he) x hx
  · intro a ha x hx
    obtain ⟨e, he, rfl⟩ := List.mem_map.mp ha
    exact cD e (List.mem_filter.mp ((Dup.sortBy_perm Dup.ltNew _).mem_iff.mp he)).1 x hx
  · simp only [List.map_map, Function.comp_def]
    refine ((sortKeyed_perm _).map _).trans ?_
    refine List.Perm.trans ?_ ((Dup.sortBy_perm Dup.ltNew _).map _).symm
    have := congrArg (List.filter q) hmap
    simp only [List.filter_map, Function.comp_def, hpq, hq] at this
    rw [this]

theorem arrange_bridge (env : Env) (E : List KEntry) (D : List Dup.Entry)
    (hkey : ∀ e ∈ E, e.1.1 = skey (toDup env e.2))
    (cE : ∀ e ∈ E, ∀ x ∈ Dup.tags (toDup env e.2), CleanStr x.key) (cD : ∀ e ∈ D, ∀ x ∈ Dup.tags e.2, CleanStr x.key)
    (hmap : E.map (fun e => Dup.canon (toDup env e.2)) = D.map (fun e => Dup.canon e.2)) :
    Dup.canonL (toDupL env (Validate.arrange E)) = Dup.canonL (Dup.arrange Dup.ltNew D) := by
  simp only [Dup.canonL_eq_map, toDupL_eq_map, Validate.arrange, Dup.arrange, List.map_append, List.map_map,
    Function.comp_def]
  have ht := half_bridge env isTagNode Dup.isTag (fun n => by rw [Dup.isTag_canon, isTag_toDup]) Dup.isTag_canon
    E D hkey cE cD hmap
  have hg := half_bridge env (fun n => !isTagNode n) Dup.isGrp
    (fun n => by rw [Dup.isGrp_canon, Dup.isGrp_eq_not, isTag_toDup]) Dup.isGrp_canon E D hkey cE cD hmap
  rw [ht, hg]


theorem mem_tags_toDupL (env : Env) (l : List RNode) (x : Dup.Tag) :
    x ∈ Dup.tagsL (toDupL env l) ↔ ∃ n ∈ l, x ∈ Dup.tags (toDup env n) := by
  induction l with
  | nil => simp [toDupL, Dup.tagsL]
  | cons k ks ih => simp [toDupL, Dup.tagsL, ih]

theorem tags_sortNode_tree (env : Env) :
    (∀ (n : RNode) (x : Dup.Tag), x ∈ Dup.tags (toDup env (sortNode env n)) ↔ x ∈ Dup.tags (toDup env n)) ∧
    (∀ (l : List RNode) (x : Dup.Tag),
      (∃ n ∈ l, x ∈ Dup.tags (toDup env (sortNode env n))) ↔ (∃ n ∈ l, x ∈ Dup.tags (toDup env n))) := by
  refine tree_ind (fun _ _ => Iff.rfl) (fun s ks ih x => ?_) (fun _ => by simp) (fun k ks ih1 ih2 x => ?_)
  · -- the members of the sorted group are the sorted members, in another order
    have hmem : ∀ c, c ∈ Validate.arrange (keyedList env ks) ↔ ∃ n ∈ ks, sortNode env n = c := by
      intro c
      rw [(varrange_perm (keyedList env ks)).mem_iff, keyedList_eq_map, List.map_map, List.mem_map]
      rfl
    simp only [sortNode, toDup, Dup.tags, mem_tags_toDupL, hmem, ← ih x]
    constructor
    · rintro ⟨_, ⟨n, hn, rfl⟩, hx⟩
      exact ⟨n, hn, hx⟩
    · rintro ⟨n, hn, hx⟩
      exact ⟨_, ⟨n, hn, rfl⟩, hx⟩
  · simp only [List.mem_cons, exists_eq_or_imp, ih1 x, ih2 x]

theorem tags_sortNode (env : Env) : ∀ (n : RNode) (x : Dup.Tag),
    x ∈ Dup.tags (toDup env (sortNode env n)) ↔ x ∈ Dup.tags (toDup env n) :=
  (tags_sortNode_tree env).1

theorem tags_sortNodeL (env : Env) : ∀ (l : List RNode) (x : Dup.Tag),
    (∃ n ∈ l, x ∈ Dup.tags (toDup env (sortNode env n))) ↔ (∃ n ∈ l, x ∈ Dup.tags (toDup env n)) :=
  (tags_sortNode_tree env).2

theorem sortNode_canon_tree (env : Env) (hv : env.var.sortCanonical = true) :
    (∀ (n : RNode), (∀ x ∈ Dup.tags (toDup env n), CleanStr x.key) →
      Dup.canon (toDup env (sortNode env n)) = Dup.canon (Dup.sortT Dup.ltNew (toDup env n))) ∧
    (∀ (l : List RNode), (∀ n ∈ l, ∀ x ∈ Dup.tags (toDup env n), CleanStr x.key) →
      l.map (fun n => Dup.canon (toDup env (sortNode env n))) =
        (toDupL env l).map (fun c => Dup.canon (Dup.sortT Dup.ltNew c))) := by
  refine tree_ind (fun _ _ => ?_) (fun s ks ih hc => ?_) (fun _ => rfl) (fun k ks ih1 ih2 hc => ?_)
  · simp [sortNode, toDup, Dup.sortT]
  · have hcl : ∀ x ∈ Dup.tagsL (toDupL env ks), CleanStr x.key := hc
    simp only [sortNode, toDup, Dup.sortT, Dup.canon, Dup.Tree.grp.injEq]
    apply arrange_bridge
    · intro e he
      rw [keyedList_eq_map] at he
      obtain ⟨n, _, rfl⟩ := List.mem_map.mp he
      simp [hv, (sortKey_tree env).1]
    · intro e he x hx
      rw [keyedList_eq_map] at he
      obtain ⟨n, hn, rfl⟩ := List.mem_map.mp he
      exact hcl x ((mem_tags_toDupL env ks x).mpr ⟨n, hn, (tags_sortNode env n x).mp hx⟩)
    · exact Dup.clean_sortKids hcl
    · rw [keyedList_eq_map, Dup.sortKids_eq_map]
      simp only [List.map_map, Function.comp_def]
      have := ih fun n hn x hx => hcl x ((mem_tags_toDupL env ks x).mpr ⟨n, hn, hx⟩)
      rw [toDupL_eq_map, List.map_map] at this ⊢
      exact this
  · simp only [List.map_cons, toDupL, List.cons.injEq]
    exact ⟨ih1 (hc k List.mem_cons_self), ih2 fun n hn => hc n (List.mem_cons_of_mem _ hn)⟩

theorem sortNodeL_canon (env : Env) (hv : env.var.sortCanonical = true) : ∀ (l : List RNode),
    (∀ n ∈ l, ∀ x ∈ Dup.tags (toDup env n), CleanStr x.key) →
    l.map (fun n => Dup.canon (toDup env (sortNode env n))) =
      (toDupL env l).map (fun c => Dup.canon (Dup.sortT Dup.ltNew c)) :=
  (sortNode_canon_tree env hv).2

theorem tags_sortedView (env : Env) (root : List RNode) (x : Dup.Tag) :
    x ∈ Dup.tagsL (toDupL env (Validate.sortedView env root)) ↔ x ∈ Dup.tagsL (toDupL env root) :=
  tags_sortNode env (.group (0, 0) root) x

/-- **Model equivalence (sorted view).** The sorted views of `Model/Validate.lean` (canonical variant) and of
`Model/Dup.lean` agree canonically. -/
theorem sortedView_canon (env : Env) (hv : env.var.sortCanonical = true) (root : List RNode)
    (hc : ∀ x ∈ Dup.tagsL (toDupL env root), CleanStr x.key) :
    Dup.canonL (toDupL env (Validate.sortedView env root)) = Dup.canonL (Dup.sortedView (toDupL env root)) :=
  Dup.Tree.grp.inj ((sortNode_canon_tree env hv).1 (.group (0, 0) root) hc)


section simdup
variable {R : RTag → RTag → Prop}

theorem sortT_canon_sim (env : Env) (hR : ∀ t t', R t t' → Core t t') :
    (∀ (k k' : RNode), NodeSim R k k' →
      (∀ x ∈ Dup.tags (toDup env k), CleanStr x.key) → (∀ x ∈ Dup.tags (toDup env k'), CleanStr x.key) →
      Dup.canon (Dup.sortT Dup.ltNew (toDup env k)) = Dup.canon (Dup.sortT Dup.ltNew (toDup env k'))) ∧
    (∀ (l m : List RNode), PointSim R l m →
      (∀ n ∈ l, ∀ x ∈ Dup.tags (toDup env n), CleanStr x.key) → (∀ n ∈ m, ∀ x ∈ Dup.tags (toDup env n), CleanStr x.key) →
      (toDupL env l).map (fun c => Dup.canon (Dup.sortT Dup.ltNew c)) =
        (toDupL env m).map (fun c => Dup.canon (Dup.sortT Dup.ltNew c))) := by
  refine sim_ind (fun t t' h _ _ => ?_) (fun _ _ ks m ks' _ hp ih hc hc' => ?_) (fun _ _ => rfl)
    (fun k k' ks ms _ _ ih1 ih2 hc hc' => ?_)
  · have := (hR t t' h).strOf (env := env)
    simp [toDup, toDupTag, Dup.sortT, Dup.canon, Dup.ctag, this]
  · refine Dup.same_grp hc hc' ?_
    rw [ih (fun n hn x hx => hc x ((mem_tags_toDupL env ks x).mpr ⟨n, hn, hx⟩))
      (fun n hn x hx => hc' x ((mem_tags_toDupL env ks' x).mpr ⟨n, hp.mem_iff.mp hn, hx⟩)),
      toDupL_eq_map, toDupL_eq_map]
    exact (hp.map _).map _
  · simp only [toDupL, List.map_cons, List.cons.injEq]
    exact ⟨ih1 (hc k List.mem_cons_self) (hc' k' List.mem_cons_self),
      ih2 (fun n hn => hc n (List.mem_cons_of_mem _ hn)) (fun n hn => hc' n (List.mem_cons_of_mem _ hn))⟩

theorem PointSim.sortT_canon (env : Env) (hR : ∀ t t', R t t' → Core t t') : ∀ (l m : List RNode), PointSim R l m →
    (∀ n ∈ l, ∀ x ∈ Dup.tags (toDup env n), CleanStr x.key) → (∀ n ∈ m, ∀ x ∈ Dup.tags (toDup env n), CleanStr x.key) →
    (toDupL env l).map (fun c => Dup.canon (Dup.sortT Dup.ltNew c)) =
      (toDupL env m).map (fun c => Dup.canon (Dup.sortT Dup.ltNew c)) :=
  (sortT_canon_sim env hR).2

theorem ForestSim.sortedView_canon (env : Env) (hR : ∀ t t', R t t' → Core t t') {l l' : List RNode}
    (h : ForestSim R l l') (hc : ∀ x ∈ Dup.tagsL (toDupL env l), CleanStr x.key)
    (hc' : ∀ x ∈ Dup.tagsL (toDupL env l'), CleanStr x.key) :
    Dup.canonL (Dup.sortedView (toDupL env l)) = Dup.canonL (Dup.sortedView (toDupL env l')) :=
  Dup.Tree.grp.inj ((sortT_canon_sim env hR).1 (.group (0, 0) l) (.group (0, 0) l') h hc hc')

end simdup

theorem errCodes_repeatIssue (c : RNode) :
    errCodes [repeatIssue c] = [dupCode (if isTagNode c then .tag else .grp)] := by
  cases c <;> rfl

theorem dup_tree (env : Env) (hv : env.var.eqFold = true) :
    (∀ (n : RNode), errCodes (dupNode env n) = (Dup.dupT Dup.teq (toDup env n)).map (fun i => dupCode i.kind)) ∧
    (∀ (l : List RNode) (prev : Option RNode), errCodes (dupList env prev l) =
      (Dup.dupL Dup.teq (prev.map (toDup env)) (toDupL env l)).map (fun i => dupCode i.kind)) := by
  refine tree_ind (fun _ => rfl) (fun _ ks ih => ?_) (fun _ => rfl) (fun c cs ih1 ih2 prev => ?_)
  · simpa [dupNode, toDup, Dup.dupT] using ih none
  · have e1 : eqPrev env prev c = Dup.eqPrev Dup.teq (prev.map (toDup env)) (toDup env c) := by
      cases prev with
      | none => rfl
      | some p => simp [eqPrev, Dup.eqPrev, (nodeEq_tree env hv).1]
    simp only [dupList, toDupL, Dup.dupL, errCodes_append, List.map_append, ih1, ih2 (some c), e1, Option.map_some]
    congr 2
    cases Dup.eqPrev Dup.teq (prev.map (toDup env)) (toDup env c)
    · rfl
    · rw [if_pos rfl, if_pos rfl, errCodes_repeatIssue]
      simp [Dup.issueOf, isTag_toDup]

theorem dupNode_eq (env : Env) (hv : env.var.eqFold = true) : ∀ (n : RNode),
    errCodes (dupNode env n) = (Dup.dupT Dup.teq (toDup env n)).map (fun i => dupCode i.kind) :=
  (dup_tree env hv).1

/-- **Model equivalence (duplicate rule).** On the canonical variant (the code after the C04 fixes) the
duplicate issues of `Model/Validate.lean` are those of `Model/Dup.lean`. -/
theorem dupIssues_eq (env : Env) (hs : env.var.sortCanonical = true) (he : env.var.eqFold = true)
    {P : Dup.Tag → Prop} (hP : Adm P) (root : List RNode) (hall : ∀ x ∈ Dup.tagsL (toDupL env root), P x) :
    errCodes (dupIssues env root) = (Dup.issues (toDupL env root)).map (fun i => dupCode i.kind) := by
  unfold dupIssues Dup.issues
  rw [(dup_tree env he).2 _ none]
  congr 1
  exact Dup.dupL_congr_top hP (fun x hx => hall x ((tags_sortedView env root x).mp hx))
    (fun x hx => hall x ((Dup.tags_sortedView Dup.ltNew _ x).mp hx))
    (sortedView_canon env hs root fun x hx => hP.clean x (hall x hx))

theorem dupIssues_sim {R : RTag → RTag → Prop} (env : Env) (hR : ∀ t t', R t t' → Core t t')
    (hs : env.var.sortCanonical = true) (he : env.var.eqFold = true)
    {P : Dup.Tag → Prop} (hP : Adm P) {l l' : List RNode} (h : ForestSim R l l')
    (hall : ∀ x ∈ Dup.tagsL (toDupL env l), P x) (hall' : ∀ x ∈ Dup.tagsL (toDupL env l'), P x) :
    errCodes (dupIssues env l) = errCodes (dupIssues env l') := by
  rw [dupIssues_eq env hs he hP l hall, dupIssues_eq env hs he hP l' hall']
  congr 1
  exact Dup.issues_congr hP hall hall' (congrArg Dup.Tree.grp
    (h.sortedView_canon env hR (fun x hx => hP.clean x (hall x hx)) fun x hx => hP.clean x (hall' x hx)))

end bridge
/-! ### `validate_duration_tags` -/

section duration
variable {R : RTag → RTag → Prop} {env : Env}

theorem ForestSim.directTags_length {l l' : List RNode} (h : ForestSim R l l') :
    (directTags l).length = (directTags l').length := by
  have := h.directTags_count (fun _ => true) (fun _ => true) (fun _ _ _ => rfl)
  rwa [List.filter_eq_self.mpr (fun _ _ => rfl), List.filter_eq_self.mpr (fun _ _ => rfl)] at this

theorem ForestSim.directGroups_length {l l' : List RNode} (h : ForestSim R l l') :
    (directGroups l).length = (directGroups l').length := by
  have := (h.flatMap_perm (fun k => (directGroupsOf k).map fun _ => ()) (fun k => (directGroupsOf k).map fun _ => ())
    fun k _ k' _ hk => by
      induction k, k', hk using NodeSim.byCases with
      | tag => exact .refl _
      | group => exact .refl _).length_eq
  simpa [directGroups_eq, List.length_flatMap] using this

theorem ForestSim.directTags_any (p p' : RTag → Bool) (hp : ∀ t t', R t t' → p t = p' t')
    {l l' : List RNode} (h : ForestSim R l l') : (directTags l).any p = (directTags l').any p' := by
  have := h.directTags_count p p' hp
  rw [← List.countP_eq_length_filter, ← List.countP_eq_length_filter] at this
  rw [Bool.eq_iff_iff, List.any_eq_true, List.any_eq_true, ← List.countP_pos_iff, ← List.countP_pos_iff, this]

/-- the body of `validate_duration_tags` for one anchored group -/
def durBody (env : Env) (top : RTag) (kids : List RNode) : List Issue :=
  let tl := ((tagsList kids).filter fun t => (baseAttr env t).topLevelTagGroup).map (shortBase env)
  if tl.any (temporalKeys.contains ·) then []
  else if tl.length != (directTags kids).length then
    ((directTags kids).filter fun t => !tl.contains (shortBase env t)).map (tagIssue .durationOtherTags)
  else if (directGroups kids).length != 1 then [tagIssue .durationWrongGroups top]
  else []

/-- a loop over `find_top_level_tags(anchors)`, at one top-level node: `F` at the first anchor tag of a group -/
def anchoredNode {β : Type} (env : Env) (anchors : List Str) (F : RTag × (Nat × Nat) × List RNode → List β) :
    RNode → List β
  | .tag _ => []
  | .group s kids =>
    match (directTags kids).find? fun t => (anchors.map fold).contains (fold (shortBase env t)) with
    | some t => F (t, s, kids)
    | none => []

theorem topLevelAnchored_flatMap {β : Type} (env : Env) (anchors : List Str)
    (F : RTag × (Nat × Nat) × List RNode → List β) (root : List RNode) :
    (topLevelAnchored env anchors root).flatMap F = root.flatMap (anchoredNode env anchors F) := by
  unfold topLevelAnchored
  induction root with
  | nil => rfl
  | cons k ks ih =>
    cases k with
    | tag _ => exact ih
    | group s kids =>
      simp only [directGroups, List.filterMap_cons, List.flatMap_cons, anchoredNode, ← ih]
      cases (directTags kids).find? _ <;> rfl

/-- on related nodes both loops skip the node, or both run their body on related groups -/
theorem anchoredNode_sim (hR : ∀ t t', R t t' → Core t t') {β γ : Type} (anchors : List Str)
    (F : RTag × (Nat × Nat) × List RNode → List β) (F' : RTag × (Nat × Nat) × List RNode → List γ)
    {P : List β → List γ → Prop} (skip : P [] [])
    (body : ∀ g g', ForestSim R g.2.2 g'.2.2 → P (F g) (F' g')) {k k' : RNode} (h : NodeSim R k k') :
    P (anchoredNode env anchors F k) (anchoredNode env anchors F' k') := by
  induction k, k', h using NodeSim.byCases with
  | tag => exact skip
  | group _ _ ks ks' hf =>
    have hs := hf.directTags_any (fun t => (anchors.map fold).contains (fold (shortBase env t))) _
      fun t t' htt => congrArg (fun s => (anchors.map fold).contains (fold s)) (hR t t' htt).shortBase.symm
    rw [← List.isSome_find?, ← List.isSome_find?] at hs
    simp only [anchoredNode]
    revert hs
    cases (directTags ks).find? _ <;> cases (directTags ks').find? _
    · exact fun _ => skip
    · exact fun hs => nomatch hs
    · exact fun hs => nomatch hs
    · exact fun _ => body _ _ hf

theorem durationIssues_eq (env : Env) (root : List RNode) :
    durationIssues env root = root.flatMap (anchoredNode env durationKeys fun g => durBody env g.1 g.2.2) :=
  topLevelAnchored_flatMap env durationKeys _ root

theorem durBody_sim (hR : ∀ t t', R t t' → Core t t') {l l' : List RNode} (h : ForestSim R l l') (top top' : RTag) :
    (errCodes (durBody env top l)).Perm (errCodes (durBody env top' l')) := by
  have htl : (((tagsList l).filter fun t => (baseAttr env t).topLevelTagGroup).map (shortBase env)).Perm
      (((tagsList l').filter fun t => (baseAttr env t).topLevelTagGroup).map (shortBase env)) := by
    rw [filter_map_eq_flatMap, filter_map_eq_flatMap]
    refine h.tags_flatMap fun t t' htt => ?_
    rw [(hR t t' htt).baseAttr, (hR t t' htt).shortBase]
  unfold durBody
  simp only [errCodes_ite, htl.any_eq, htl.length_eq, htl.contains_eq, h.directTags_length, h.directGroups_length,
    errCodes_singleton, sig_tagIssue, errCodes_map, filter_flatMap]
  refine perm_ite (.refl _) (perm_ite ?_ (.refl _))
  refine h.directTags_flatMap fun t t' htt => ?_
  rw [(hR t t' htt).shortBase]

theorem durationIssues_sim (hR : ∀ t t', R t t' → Core t t') {l l' : List RNode} (h : ForestSim R l l') :
    (errCodes (durationIssues env l)).Perm (errCodes (durationIssues env l')) := by
  rw [durationIssues_eq, durationIssues_eq, errCodes_flatMap, errCodes_flatMap]
  exact h.flatMap_perm _ _ fun k _ k' _ hk => anchoredNode_sim hR durationKeys _ _
    (P := fun a b => (errCodes a).Perm (errCodes b)) (.refl _) (fun _ _ hf => durBody_sim hR hf _ _) hk

end duration
/-! ### `validate_def_tags` -/

section defs
open HedVerif.Dup (Adm CleanStr)
variable {R : RTag → RTag → Prop} {env : Env}

theorem tags_toDup_tree (env : Env) :
    (∀ (n : RNode), Dup.tags (toDup env n) = (tagsNode n).map (toDupTag env)) ∧
    (∀ (l : List RNode), Dup.tagsL (toDupL env l) = (tagsList l).map (toDupTag env)) :=
  tree_ind (fun _ => rfl) (fun _ _ ih => ih) rfl
    (fun k ks ih1 ih2 => by simp only [toDupL, Dup.tagsL, tagsList, List.map_append, ih1, ih2])

theorem tags_toDup (env : Env) : ∀ (n : RNode), Dup.tags (toDup env n) = (tagsNode n).map (toDupTag env) :=
  (tags_toDup_tree env).1

theorem all_toDupL {P : Dup.Tag → Prop} {l : List RNode} (h : ∀ t ∈ tagsList l, P (toDupTag env t)) :
    ∀ x ∈ Dup.tagsL (toDupL env l), P x := by
  intro x hx
  rw [(tags_toDup_tree env).2] at hx
  obtain ⟨t, ht, rfl⟩ := List.mem_map.mp hx
  exact h t ht

theorem defExpansion_core {t t' : RTag} (h : Core t t') : defExpansion env t' = defExpansion env t := by
  unfold defExpansion
  rw [h.defLabel, h.defValue]

theorem listEq_sortedView_iff (hs : env.var.sortCanonical = true) (he : env.var.eqFold = true)
    {P : Dup.Tag → Prop} (hP : Adm P) {A B : List RNode}
    (hA : ∀ x ∈ tagsList A, P (toDupTag env x)) (hB : ∀ x ∈ tagsList B, P (toDupTag env x)) :
    listEq env (Validate.sortedView env A) (Validate.sortedView env B) = true ↔
      Dup.canonL (Dup.sortedView (toDupL env A)) = Dup.canonL (Dup.sortedView (toDupL env B)) := by
  have pA := all_toDupL hA
  have pB := all_toDupL hB
  rw [(nodeEq_tree env he).2, Dup.eqvL_iff hP _ _ (fun x hx => pA x ((tags_sortedView env A x).mp hx))
      (fun x hx => pB x ((tags_sortedView env B x).mp hx)),
    sortedView_canon env hs A (fun x hx => hP.clean x (pA x hx)),
    sortedView_canon env hs B (fun x hx => hP.clean x (pB x hx))]

/-- the comparison of a written Def-expand group with the expansion of its definition -/
theorem defExpand_compare (hR : ∀ t t', R t t' → Core t t') (hs : env.var.sortCanonical = true)
    (he : env.var.eqFold = true) {P : Dup.Tag → Prop} (hP : Adm P) {kids kids' : List RNode} (h : ForestSim R kids kids')
    {t t' : RTag} (htt : Core t t') (rest : List RNode)
    (h1 : ∀ x ∈ tagsList kids, P (toDupTag env x)) (h1' : ∀ x ∈ tagsList kids', P (toDupTag env x))
    (h2 : ∀ x ∈ tagsList (.tag t :: rest), P (toDupTag env x))
    (h2' : ∀ x ∈ tagsList (.tag t' :: rest), P (toDupTag env x)) :
    listEq env (Validate.sortedView env kids) (Validate.sortedView env (.tag t :: rest)) =
      listEq env (Validate.sortedView env kids') (Validate.sortedView env (.tag t' :: rest)) := by
  -- the expansions differ in the spelling of the Def-expand tag only
  have hexp := Dup.sortT_canon_congr (.grp (toDupL env (.tag t :: rest))) (.grp (toDupL env (.tag t' :: rest)))
    (fun x hx => hP.clean x (all_toDupL h2 x hx)) (fun x hx => hP.clean x (all_toDupL h2' x hx))
    (by simp [toDupL, toDup, toDupTag, Dup.canon, Dup.canonL, Dup.ctag, htt.strOf])
  rw [Bool.eq_iff_iff, listEq_sortedView_iff hs he hP h1 h2, listEq_sortedView_iff hs he hP h1' h2',
    h.sortedView_canon env hR (fun x hx => hP.clean x (all_toDupL h1 x hx)) (fun x hx => hP.clean x (all_toDupL h1' x hx)),
    show Dup.canonL (Dup.sortedView (toDupL env (.tag t :: rest))) =
      Dup.canonL (Dup.sortedView (toDupL env (.tag t' :: rest))) from Dup.Tree.grp.inj hexp]


theorem defContent_none_core {t t' : RTag} (h : Core t t') :
    errCodes (defContentIssues env t' none) = errCodes (defContentIssues env t none) := by
  unfold defContentIssues
  rw [defExpansion_core h]
  cases defExpansion env t with
  | noEntry | mismatch => exact errCodes_of_sigs (by simp)
  | ok rest => rfl

theorem defContent_some_sim (hR : ∀ t t', R t t' → Core t t') (hs : env.var.sortCanonical = true)
    (he : env.var.eqFold = true) {P : Dup.Tag → Prop} (hP : Adm P) (hD : DefsOK env P)
    {kids kids' : List RNode} (h : ForestSim R kids kids') {t t' : RTag} (htt : Core t t')
    (h1 : ∀ x ∈ tagsList kids, P (toDupTag env x)) (h1' : ∀ x ∈ tagsList kids', P (toDupTag env x))
    (ht : P (toDupTag env t)) (ht' : P (toDupTag env t')) :
    errCodes (defContentIssues env t (some kids)) = errCodes (defContentIssues env t' (some kids')) := by
  unfold defContentIssues
  rw [defExpansion_core htt]
  cases hx : defExpansion env t with
  | noEntry | mismatch => exact errCodes_of_sigs (by simp)
  | ok rest =>
    have hexp : ∀ {u : RTag}, P (toDupTag env u) → ∀ x ∈ tagsList (.tag u :: rest), P (toDupTag env x) :=
      fun hu x hm => (List.mem_cons.mp hm).elim (fun e => e ▸ hu) (hD t rest hx x)
    simp only
    rw [defExpand_compare hR hs he hP h htt rest h1 h1' (hexp ht) (hexp ht')]
    split
    · exact errCodes_of_sigs (by simp)
    · rfl

def defItem (env : Env) : RNode → List Issue
  | .tag t => if shortBase env t == defKey then defContentIssues env t none else []
  | .group _ kids =>
    ((directTags kids).filter (fun t => shortBase env t == defExpandKey)).flatMap
      (fun t => defContentIssues env t (some kids))

theorem defIssuesOf_eq (env : Env) (l : List RNode) : defIssuesOf env l = l.flatMap (defItem env) := by
  induction l with
  | nil => rfl
  | cons k ks ih => cases k <;> simp [defIssuesOf, defItem, ih]

theorem defIssuesOf_sim (hR : ∀ t t', R t t' → Core t t') (hs : env.var.sortCanonical = true)
    (he : env.var.eqFold = true) {P : Dup.Tag → Prop} (hP : Adm P) (hD : DefsOK env P)
    {l l' : List RNode} (h : ForestSim R l l')
    (h1 : ∀ x ∈ tagsList l, P (toDupTag env x)) (h1' : ∀ x ∈ tagsList l', P (toDupTag env x)) :
    (errCodes (defIssuesOf env l)).Perm (errCodes (defIssuesOf env l')) := by
  rw [defIssuesOf_eq, defIssuesOf_eq, errCodes_flatMap, errCodes_flatMap]
  refine h.flatMap_perm _ _ fun k hk k' hk' hkk => ?_
  induction k, k', hkk using NodeSim.byCases with
  | tag t t' htt =>
    have hc := hR t t' htt
    simp only [defItem, hc.shortBase, errCodes_ite]
    exact perm_ite (.of_eq (defContent_none_core hc).symm) (.refl _)
  | group _ _ ks ks' hf =>
    have pk : ∀ x ∈ tagsList ks, P (toDupTag env x) := fun x hx => h1 x (mem_tagsList hk hx)
    have pk' : ∀ x ∈ tagsList ks', P (toDupTag env x) := fun x hx => h1' x (mem_tagsList hk' hx)
    simp only [defItem, errCodes_flatMap, filter_flatMap, errCodes_ite]
    refine hf.directTags_flatMap_mem fun t ht t' ht' htt => ?_
    have hc := hR t t' htt
    rw [hc.shortBase]
    exact perm_ite (.of_eq (defContent_some_sim hR hs he hP hD hf hc pk pk' (pk t (C01.directTags_sub _ _ ht))
      (pk' t' (C01.directTags_sub _ _ ht')))) (.refl _)

theorem defPhase_sim (hR : ∀ t t', R t t' → Core t t') (hs : env.var.sortCanonical = true)
    (he : env.var.eqFold = true) {P : Dup.Tag → Prop} (hP : Adm P) (hD : DefsOK env P)
    {l l' : List RNode} (h : ForestSim R l l') (len len' : Nat)
    (h1 : ∀ x ∈ tagsList l, P (toDupTag env x)) (h1' : ∀ x ∈ tagsList l', P (toDupTag env x)) :
    (errCodes (defPhase env len l)).Perm (errCodes (defPhase env len' l')) := by
  unfold defPhase
  rw [errCodes_flatMap, errCodes_flatMap]
  apply h.allGroups_flatMap len len'
  intro g hg g' hg' hgg
  have sub : ∀ (len : Nat) (l : List RNode) (g : GV), g ∈ allGroups len l → ∀ x ∈ tagsList g.kids, x ∈ tagsList l := by
    intro len l g hg x hx
    simp only [allGroups, List.mem_cons] at hg
    rcases hg with rfl | hg
    · exact hx
    · exact C01.groupsList_tags true l g hg x hx
  exact defIssuesOf_sim hR hs he hP hD hgg.2.2 (fun x hx => h1 x (sub len l g hg x hx))
    (fun x hx => h1' x (sub len' l' g' hg' x hx))

end defs
end HedVerif.Rewrite
