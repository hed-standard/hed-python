/-
C04 — the validation outcome does not depend on how an annotation is written.  Theorems about `Model/Dup.lean`
(duplicate detection on the recursively sorted view, `HedTag.__eq__`, the delimiter scan) for the code after
fixes/C04_duplicates_canonical_sort.diff and fixes/C04_repeated_empty_group.diff; the old code (`…Old`) is
refuted by the `*_counterexample` theorems.

The order proof: the sort key `skey` is a function of the canonical form `canon` and, for clean tags, determines
it (`canon_eq_of_skey`); so the sorted view of a group is, canonically, the unique key-sorted arrangement of its
members' views (`same_grp`), and the duplicate loop sees the canonical form only (`dupL_congr`): `issues_congr`.
-/
import HedVerif.Model.Dup
import HedVerif.Props.CodePoint
import HedVerif.Props.C02
import HedVerif.Props.C03
namespace HedVerif.Dup

theorem strLt_iff {a b : Str} : strLt a b = true ↔ a < b := by
  fun_induction strLt a b with
  | case1 => simp
  | case2 => simp
  | case3 x xs y ys ih =>
    simp only [Bool.or_eq_true, Bool.and_eq_true, decide_eq_true_eq, beq_iff_eq, List.cons_lt_cons_iff, ih, toNat_lt_iff]

theorem strLt_eq_false {a b : Str} : strLt a b = false ↔ b ≤ a := by
  rw [← Bool.not_eq_true, strLt_iff, List.not_lt]

theorem strLt_irrefl (a : Str) : strLt a a = false :=
  strLt_eq_false.mpr (List.le_refl a)

theorem strLt_asymm (a b : Str) (h : strLt a b = true) : strLt b a = false :=
  strLt_eq_false.mpr (List.le_of_lt (strLt_iff.mp h))

/-- transitivity of `≤`, with `a ≤ b` written `strLt b a = false` -/
theorem strLe_trans (a b c : Str) (h1 : strLt b a = false) (h2 : strLt c b = false) : strLt c a = false :=
  strLt_eq_false.mpr (List.le_trans (strLt_eq_false.mp h1) (strLt_eq_false.mp h2))

/-- antisymmetry of `≤` -/
theorem strLt_total (a b : Str) (h1 : strLt a b = false) (h2 : strLt b a = false) : a = b :=
  List.le_antisymm (strLt_eq_false.mp h2) (strLt_eq_false.mp h1)

theorem insBy_perm {α : Type} (lt : α → α → Bool) (x : α) (l : List α) : (insBy lt x l).Perm (x :: l) := by
  fun_induction insBy lt x l with
  | case1 => exact .refl _
  | case2 y ys _ ih => exact (ih.cons y).trans (.swap x y ys)
  | case3 => exact .refl _

theorem sortBy_perm {α : Type} (lt : α → α → Bool) (l : List α) : (sortBy lt l).Perm l := by
  induction l with
  | nil => exact .refl _
  | cons x xs ih => exact (insBy_perm lt x _).trans (ih.cons x)

theorem insBy_pairwise {α : Type} {lt : α → α → Bool} {R : α → α → Prop} (trans : ∀ a b c, R a b → R b c → R a c)
    (h1 : ∀ a b, lt a b = true → R a b) (h2 : ∀ a b, lt a b = false → R b a)
    (x : α) {l : List α} (hl : l.Pairwise R) : (insBy lt x l).Pairwise R := by
  fun_induction insBy lt x l with
  | case1 => exact List.pairwise_singleton R x
  | case2 y ys hyx ih =>
    obtain ⟨hy, hys⟩ := List.pairwise_cons.mp hl
    refine List.pairwise_cons.mpr ⟨fun z hz => ?_, ih hys⟩
    rcases List.mem_cons.mp ((insBy_perm lt x ys).mem_iff.mp hz) with rfl | hz
    · exact h1 _ _ hyx
    · exact hy z hz
  | case3 y ys hyx =>
    have hxy : R x y := h2 _ _ (Bool.not_eq_true _ ▸ hyx)
    refine List.pairwise_cons.mpr ⟨fun z hz => ?_, hl⟩
    rcases List.mem_cons.mp hz with rfl | hz
    · exact hxy
    · exact trans _ _ _ hxy ((List.pairwise_cons.mp hl).1 z hz)

theorem sortBy_pairwise {α : Type} {lt : α → α → Bool} {R : α → α → Prop} (trans : ∀ a b c, R a b → R b c → R a c)
    (h1 : ∀ a b, lt a b = true → R a b) (h2 : ∀ a b, lt a b = false → R b a) :
    ∀ l : List α, (sortBy lt l).Pairwise R
  | [] => List.Pairwise.nil
  | x :: xs => insBy_pairwise trans h1 h2 x (sortBy_pairwise trans h1 h2 xs)

/-- `a` may stand before `b` as far as the primary key `k` goes -/
abbrev LeK {α : Type} (k : α → Str) (a b : α) : Prop := strLt (k b) (k a) = false

theorem sortNew_pairwise (l : List Entry) : (sortBy ltNew l).Pairwise (LeK (fun e => skey e.2)) := by
  refine sortBy_pairwise (R := LeK fun e => skey e.2) (fun _ _ _ => strLe_trans _ _ _) (fun a b h => ?_)
    (fun a b h => ?_) l
  · simp only [ltNew, Bool.or_eq_true, Bool.and_eq_true, beq_iff_eq] at h
    rcases h with h | ⟨h, _⟩
    · exact strLt_asymm _ _ h
    · rw [LeK, h]
      exact strLt_irrefl _
  · exact (Bool.or_eq_false_iff.mp h).1


mutual
def tags : Tree → List Tag
  | .tag t => [t]
  | .grp cs => tagsL cs
def tagsL : List Tree → List Tag
  | [] => []
  | c :: cs => tags c ++ tagsL cs
end

theorem mem_tagsL {x : Tag} {l : List Tree} : x ∈ tagsL l ↔ ∃ c ∈ l, x ∈ tags c := by
  induction l with
  | nil => simp [tagsL]
  | cons c cs ih => simp [tagsL, ih]

theorem forall_tagsL_cons {Q : Tag → Prop} {c : Tree} {cs : List Tree} :
    (∀ x ∈ tagsL (c :: cs), Q x) ↔ (∀ x ∈ tags c, Q x) ∧ ∀ x ∈ tagsL cs, Q x := by
  simp only [tagsL, List.forall_mem_append]

/-- a tag reduced to what the fixed code looks at -/
def ctag (t : Tag) : Tag := ⟨t.key, t.key, t.key⟩

mutual
/-- canonical form: every tag replaced by its folded short form -/
def canon : Tree → Tree
  | .tag t => .tag (ctag t)
  | .grp cs => .grp (canonL cs)
def canonL : List Tree → List Tree
  | [] => []
  | c :: cs => canon c :: canonL cs
end

theorem canonL_eq_map (l : List Tree) : canonL l = l.map canon := by
  induction l with
  | nil => rfl
  | cons c cs ih => simp [canonL, ih]

theorem isTag_canon (t : Tree) : isTag (canon t) = isTag t := by cases t <;> simp [canon, isTag]
theorem isGrp_canon (t : Tree) : isGrp (canon t) = isGrp t := by cases t <;> simp [canon, isGrp]
theorem isGrp_eq_not (t : Tree) : isGrp t = !isTag t := by cases t <;> simp [isTag, isGrp]

mutual
theorem skey_canon : ∀ t : Tree, skey (canon t) = skey t
  | .tag t => by simp [canon, render, ctag]
  | .grp cs => by simp [canon, render, skeyL_canon cs]
theorem skeyL_canon : ∀ l : List Tree, renderL Tag.key (canonL l) = renderL Tag.key l
  | [] => by simp [canonL]
  | c :: cs => by
    have h1 := skey_canon c
    have h2 := skeyL_canon cs
    cases cs with
    | nil => simpa [canonL, renderL] using h1
    | cons d ds =>
      simp only [canonL, renderL] at h2 ⊢
      simp only [skey] at h1
      rw [h1, h2]
end

theorem skey_eq_of_canon {a b : Tree} (h : canon a = canon b) : skey a = skey b := by
  rw [← skey_canon a, ← skey_canon b, h]

/-! ### unique readability of the canonical key -/

/-- what a tag text can be after tokenisation (C02 `tiling`): non-empty, no delimiter -/
def CleanStr (s : Str) : Prop := s ≠ [] ∧ ∀ c ∈ s, c ≠ '(' ∧ c ≠ ')' ∧ c ≠ ','

instance (s : Str) : Decidable (CleanStr s) := inferInstanceAs (Decidable (_ ∧ _))

/-- the rest of the text after an element: empty, or a comma, or a closing parenthesis -/
def elemEnd : Str → Bool
  | [] => true
  | c :: _ => c == ',' || c == ')'

theorem elemEnd_cons {c : Char} (hc : c ≠ '(' ∧ c ≠ ')' ∧ c ≠ ',') (r : Str) : elemEnd (c :: r) = false := by
  simp [elemEnd, hc]

theorem CleanStr.head {k : Str} (h : CleanStr k) : ∃ c r, k = c :: r ∧ c ≠ '(' ∧ c ≠ ')' ∧ c ≠ ',' := by
  cases k with
  | nil => exact absurd rfl h.1
  | cons c r => exact ⟨c, r, rfl, h.2 c List.mem_cons_self⟩

theorem span_unique {s s' : Str} (hs : elemEnd s = true) (hs' : elemEnd s' = true) {k k' : Str}
    (hk : ∀ c ∈ k, c ≠ '(' ∧ c ≠ ')' ∧ c ≠ ',') (hk' : ∀ c ∈ k', c ≠ '(' ∧ c ≠ ')' ∧ c ≠ ',')
    (h : k ++ s = k' ++ s') : k = k' ∧ s = s' := by
  induction k generalizing k' with
  | nil =>
    cases k' with
    | nil => exact ⟨rfl, h⟩
    | cons c k' =>
      rw [List.nil_append] at h
      rw [h, List.cons_append, elemEnd_cons (hk' c List.mem_cons_self)] at hs
      contradiction
  | cons c k ih =>
    cases k' with
    | nil =>
      rw [List.nil_append] at h
      rw [← h, List.cons_append, elemEnd_cons (hk c List.mem_cons_self)] at hs'
      contradiction
    | cons c' k' =>
      injection h with hc h
      obtain ⟨hkk, hss⟩ := ih (fun x hx => hk x (List.mem_cons_of_mem _ hx))
        (fun x hx => hk' x (List.mem_cons_of_mem _ hx)) h
      exact ⟨by rw [hc, hkk], hss⟩

theorem elemEnd_skey {a : Tree} (ha : ∀ x ∈ tags a, CleanStr x.key) (s : Str) : elemEnd (skey a ++ s) = false := by
  cases a with
  | tag t =>
    obtain ⟨c, r, hk, hc⟩ := (ha t (.head _)).head
    simp only [skey, render, hk]
    exact elemEnd_cons hc _
  | grp cs => rfl

theorem clean_ne_paren {k : Str} (hk : CleanStr k) (s r : Str) : k ++ s ≠ '(' :: r := by
  obtain ⟨c, k', rfl, hc⟩ := hk.head
  intro h
  injection h with h
  exact hc.1 h


/- Reading one element off the front of a text is unambiguous, provided what follows it is an `elemEnd`; between the
parentheses of a group no such proviso is needed. -/
mutual
theorem skey_inj : ∀ (a b : Tree) (s s' : Str), (∀ x ∈ tags a, CleanStr x.key) → (∀ x ∈ tags b, CleanStr x.key) →
    elemEnd s = true → elemEnd s' = true → skey a ++ s = skey b ++ s' → canon a = canon b ∧ s = s'
  | .tag t, .tag u => fun _ _ ha hb hs hs' h => by
    obtain ⟨hk, hss⟩ := span_unique hs hs' (ha t (.head _)).2 (hb u (.head _)).2 h
    exact ⟨congrArg (fun k => Tree.tag ⟨k, k, k⟩) hk, hss⟩
  | .tag t, .grp _ => fun _ _ ha _ _ _ h => absurd h (clean_ne_paren (ha t (.head _)) _ _)
  | .grp _, .tag u => fun _ _ _ hb _ _ h => absurd h.symm (clean_ne_paren (hb u (.head _)) _ _)
  | .grp cs, .grp ds => fun s s' ha hb _ _ h => by
    simp only [skey, render, List.cons_append, List.cons.injEq, true_and, List.append_assoc] at h
    obtain ⟨hcd, hss⟩ := skeyL_inj cs ds s s' ha hb h
    exact ⟨congrArg Tree.grp hcd, hss⟩
theorem skeyL_inj : ∀ (as bs : List Tree) (r r' : Str), (∀ x ∈ tagsL as, CleanStr x.key) →
    (∀ x ∈ tagsL bs, CleanStr x.key) →
    renderL Tag.key as ++ ')' :: r = renderL Tag.key bs ++ ')' :: r' → canonL as = canonL bs ∧ r = r'
  | [], [] => fun _ _ _ _ h => ⟨rfl, by injection h⟩
  | [], b :: bs => fun _ _ _ hb h => by
    have := congrArg elemEnd h
    simp only [renderL, List.append_assoc, elemEnd_skey (forall_tagsL_cons.mp hb).1] at this
    cases this
  | a :: as, [] => fun _ _ ha _ h => by
    have := congrArg elemEnd h
    simp only [renderL, List.append_assoc, elemEnd_skey (forall_tagsL_cons.mp ha).1] at this
    cases this
  | a :: as, b :: bs => fun r r' ha hb h => by
    obtain ⟨ha1, ha2⟩ := forall_tagsL_cons.mp ha
    obtain ⟨hb1, hb2⟩ := forall_tagsL_cons.mp hb
    simp only [renderL, List.append_assoc] at h
    -- after the first member comes `)` or `,` and the other members
    obtain ⟨hab, hrest⟩ := skey_inj a b _ _ ha1 hb1 (by cases as <;> rfl) (by cases bs <;> rfl) h
    cases as with
    | nil =>
      cases bs with
      | nil => exact ⟨congrArg (· :: []) hab, by injection hrest⟩
      | cons d ds => simp at hrest
    | cons c cs =>
      cases bs with
      | nil => simp at hrest
      | cons d ds =>
        injection hrest with _ hrest
        obtain ⟨hcd, hrr⟩ := skeyL_inj (c :: cs) (d :: ds) r r' ha2 hb2 hrest
        exact ⟨List.cons_eq_cons.mpr ⟨hab, hcd⟩, hrr⟩
end

theorem canon_eq_of_skey {a b : Tree} (ha : ∀ x ∈ tags a, CleanStr x.key) (hb : ∀ x ∈ tags b, CleanStr x.key)
    (h : skey a = skey b) : canon a = canon b :=
  (skey_inj a b [] [] ha hb rfl rfl (by simpa using h)).1


theorem sortKids_eq_map (lt : Entry → Entry → Bool) (cs : List Tree) :
    sortKids lt cs = cs.map (fun c => (render Tag.text c, sortT lt c)) := by
  induction cs with
  | nil => rfl
  | cons c cs ih => rw [sortKids, ih, List.map_cons]

/-- one of the two sorted lists that `arrange` concatenates -/
def half (lt : Entry → Entry → Bool) (p : Tree → Bool) (E : List Entry) : List Tree :=
  (sortBy lt (E.filter fun e => p e.2)).map Prod.snd

theorem arrange_eq (lt : Entry → Entry → Bool) (E : List Entry) :
    arrange lt E = half lt isTag E ++ half lt isGrp E :=
  List.map_append

theorem half_perm (lt : Entry → Entry → Bool) (p : Tree → Bool) (E : List Entry) :
    (half lt p E).Perm ((E.map Prod.snd).filter p) := by
  rw [List.filter_map]
  exact (sortBy_perm lt _).map _

theorem half_pairwise (p : Tree → Bool) (E : List Entry) : (half ltNew p E).Pairwise (LeK skey) :=
  List.pairwise_map.mpr (sortNew_pairwise _)

theorem arrange_perm (lt : Entry → Entry → Bool) (E : List Entry) : (arrange lt E).Perm (E.map Prod.snd) := by
  have hg : isGrp = fun t => !isTag t := funext isGrp_eq_not
  rw [arrange_eq, hg]
  exact ((half_perm lt _ E).append (half_perm lt _ E)).trans (List.filter_append_perm _ _)

theorem view_perm (lt : Entry → Entry → Bool) (cs : List Tree) :
    (arrange lt (sortKids lt cs)).Perm (cs.map (sortT lt)) := by
  simpa only [sortKids_eq_map, List.map_map, Function.comp_def] using arrange_perm lt (sortKids lt cs)

theorem Tree.induction {motive : Tree → Prop} (tag : ∀ t, motive (.tag t))
    (grp : ∀ cs, (∀ c ∈ cs, motive c) → motive (.grp cs)) (t : Tree) : motive t :=
  Tree.rec (motive_2 := fun cs => ∀ c ∈ cs, motive c) tag grp (fun _ h => nomatch h)
    (fun _ _ h1 h2 => List.forall_mem_cons.mpr ⟨h1, h2⟩) t

theorem tags_sortT (lt : Entry → Entry → Bool) (t : Tree) (x : Tag) : x ∈ tags (sortT lt t) ↔ x ∈ tags t := by
  induction t using Tree.induction with
  | tag t => rfl
  | grp cs ih =>
    simp only [sortT, tags, mem_tagsL, (view_perm lt cs).mem_iff, List.mem_map]
    constructor
    · rintro ⟨_, ⟨c, hc, rfl⟩, hx⟩
      exact ⟨c, hc, (ih c hc).mp hx⟩
    · rintro ⟨c, hc, hx⟩
      exact ⟨_, ⟨c, hc, rfl⟩, (ih c hc).mpr hx⟩

theorem tags_sortKids {lt : Entry → Entry → Bool} {cs : List Tree} {e : Entry} (he : e ∈ sortKids lt cs)
    {x : Tag} (hx : x ∈ tags e.2) : x ∈ tagsL cs := by
  rw [sortKids_eq_map] at he
  obtain ⟨c, hc, rfl⟩ := List.mem_map.mp he
  exact mem_tagsL.mpr ⟨c, hc, (tags_sortT lt c x).mp hx⟩

theorem tags_sortedView (lt : Entry → Entry → Bool) (top : List Tree) (x : Tag) :
    x ∈ tagsL (arrange lt (sortKids lt top)) ↔ x ∈ tagsL top :=
  tags_sortT lt (.grp top) x

/-- two key-sorted lists of clean trees with the same canonical members are the same, canonically -/
theorem sorted_unique (X Y : List Tree) (hX : X.Pairwise (LeK skey)) (hY : Y.Pairwise (LeK skey))
    (cX : ∀ a ∈ X, ∀ x ∈ tags a, CleanStr x.key) (cY : ∀ a ∈ Y, ∀ x ∈ tags a, CleanStr x.key)
    (hp : (X.map canon).Perm (Y.map canon)) : X.map canon = Y.map canon := by
  have hpw : ∀ {Z : List Tree}, Z.Pairwise (LeK skey) → (Z.map canon).Pairwise (LeK skey) := fun hZ =>
    List.pairwise_map.mpr (hZ.imp fun {a b} hab => by rwa [LeK, skey_canon, skey_canon])
  refine hp.eq_of_pairwise (le := LeK skey) ?_ (hpw hX) (hpw hY)
  intro a b ha hb hab hba
  obtain ⟨a0, ha0, rfl⟩ := List.mem_map.mp ha
  obtain ⟨b0, hb0, rfl⟩ := List.mem_map.mp hb
  rw [LeK, skey_canon, skey_canon] at hab hba
  exact canon_eq_of_skey (cX a0 ha0) (cY b0 hb0) (strLt_total _ _ hba hab)

theorem half_congr (p : Tree → Bool) (hp : ∀ t, p (canon t) = p t) (E1 E2 : List Entry)
    (h1 : ∀ e ∈ E1, ∀ x ∈ tags e.2, CleanStr x.key) (h2 : ∀ e ∈ E2, ∀ x ∈ tags e.2, CleanStr x.key)
    (hperm : (E1.map (fun e => canon e.2)).Perm (E2.map (fun e => canon e.2))) :
    (half ltNew p E1).map canon = (half ltNew p E2).map canon := by
  have hcl : ∀ E : List Entry, (∀ e ∈ E, ∀ x ∈ tags e.2, CleanStr x.key) →
      ∀ a ∈ half ltNew p E, ∀ x ∈ tags a, CleanStr x.key := by
    intro E h a ha
    obtain ⟨e, he, rfl⟩ := List.mem_map.mp (List.mem_filter.mp ((half_perm ltNew p E).mem_iff.mp ha)).1
    exact h e he
  have hpm : ∀ E : List Entry, ((half ltNew p E).map canon).Perm ((E.map fun e => canon e.2).filter p) := by
    intro E
    refine ((half_perm ltNew p E).map canon).trans ?_
    simp only [List.filter_map, List.map_map, Function.comp_def, hp]
    exact .refl _
  exact sorted_unique _ _ (half_pairwise p E1) (half_pairwise p E2) (hcl E1 h1) (hcl E2 h2)
    ((hpm E1).trans ((hperm.filter p).trans (hpm E2).symm))

theorem arrange_congr (E1 E2 : List Entry)
    (h1 : ∀ e ∈ E1, ∀ x ∈ tags e.2, CleanStr x.key) (h2 : ∀ e ∈ E2, ∀ x ∈ tags e.2, CleanStr x.key)
    (hperm : (E1.map (fun e => canon e.2)).Perm (E2.map (fun e => canon e.2))) :
    canonL (arrange ltNew E1) = canonL (arrange ltNew E2) := by
  rw [canonL_eq_map, canonL_eq_map, arrange_eq, arrange_eq, List.map_append, List.map_append,
    half_congr isTag isTag_canon E1 E2 h1 h2 hperm, half_congr isGrp isGrp_canon E1 E2 h1 h2 hperm]

theorem clean_sortKids {cs : List Tree} (h : ∀ x ∈ tagsL cs, CleanStr x.key) :
    ∀ e ∈ sortKids ltNew cs, ∀ x ∈ tags e.2, CleanStr x.key :=
  fun _ he x hx => h x (tags_sortKids he hx)

/-- equal up to spelling and the order of members at every depth -/
def Same (x y : Tree) : Prop := canon (sortT ltNew x) = canon (sortT ltNew y)

theorem same_grp {cs ds : List Tree} (hc : ∀ x ∈ tagsL cs, CleanStr x.key) (hd : ∀ x ∈ tagsL ds, CleanStr x.key)
    (h : (cs.map fun c => canon (sortT ltNew c)).Perm (ds.map fun c => canon (sortT ltNew c))) :
    Same (.grp cs) (.grp ds) := by
  rw [Same, sortT, sortT, canon, canon, arrange_congr _ _ (clean_sortKids hc) (clean_sortKids hd)]
  simpa only [sortKids_eq_map, List.map_map, Function.comp_def] using h

/-- `Shuffle a b`: `b` is `a` with the children of some groups (or of the top level) reordered -/
inductive Shuffle : Tree → Tree → Prop
  | refl (t : Tree) : Shuffle t t
  | perm {cs ds : List Tree} : cs.Perm ds → Shuffle (.grp cs) (.grp ds)
  | inside {pre post : List Tree} {c d : Tree} : Shuffle c d →
      Shuffle (.grp (pre ++ c :: post)) (.grp (pre ++ d :: post))
  | trans {a b c : Tree} : Shuffle a b → Shuffle b c → Shuffle a c

theorem shuffle_tags {a b : Tree} (h : Shuffle a b) (x : Tag) : x ∈ tags a ↔ x ∈ tags b := by
  induction h with
  | refl t => rfl
  | perm hp => simp only [tags, mem_tagsL, hp.mem_iff]
  | inside _ ih =>
    simp only [tags, mem_tagsL, List.mem_append, List.mem_cons, or_and_right, exists_or, exists_eq_left, ih]
  | trans _ _ ih1 ih2 => exact ih1.trans ih2

theorem shuffle_same {a b : Tree} (h : Shuffle a b) (hc : ∀ x ∈ tags a, CleanStr x.key) : Same a b := by
  induction h with
  | refl t => rfl
  | @perm cs ds hp => exact same_grp hc (fun x hx => hc x ((shuffle_tags (.perm hp) x).mpr hx)) (hp.map _)
  | @inside pre post c d hcd ih =>
    refine same_grp hc (fun x hx => hc x ((shuffle_tags (.inside hcd) x).mpr hx)) ?_
    have hcd' : canon (sortT ltNew c) = canon (sortT ltNew d) :=
      ih fun x hx => hc x (mem_tagsL.mpr ⟨c, List.mem_append_right _ List.mem_cons_self, hx⟩)
    rw [List.map_append, List.map_append, List.map_cons, List.map_cons, hcd']
  | trans h1 _ ih1 ih2 => exact (ih1 hc).trans (ih2 fun x hx => hc x ((shuffle_tags h1 x).mpr hx))

mutual
theorem sortT_canon_congr : ∀ (a b : Tree), (∀ x ∈ tags a, CleanStr x.key) → (∀ x ∈ tags b, CleanStr x.key) →
    canon a = canon b → canon (sortT ltNew a) = canon (sortT ltNew b)
  | .tag _, .tag _ => fun _ _ h => h
  | .tag _, .grp _ | .grp _, .tag _ => fun _ _ h => nomatch h
  | .grp cs, .grp ds => fun ha hb h =>
    same_grp ha hb (sortKids_canon_congr cs ds ha hb (Tree.grp.inj h) ▸ .refl _)
theorem sortKids_canon_congr : ∀ (cs ds : List Tree), (∀ x ∈ tagsL cs, CleanStr x.key) →
    (∀ x ∈ tagsL ds, CleanStr x.key) → canonL cs = canonL ds →
    cs.map (fun c => canon (sortT ltNew c)) = ds.map (fun c => canon (sortT ltNew c))
  | [], [] => fun _ _ _ => rfl
  | [], _ :: _ | _ :: _, [] => fun _ _ h => nomatch h
  | a :: as, b :: bs => fun ha hb h => by
    obtain ⟨hab, h⟩ := List.cons.inj h
    obtain ⟨ha1, ha2⟩ := forall_tagsL_cons.mp ha
    obtain ⟨hb1, hb2⟩ := forall_tagsL_cons.mp hb
    rw [List.map_cons, List.map_cons, sortT_canon_congr a b ha1 hb1 hab, sortKids_canon_congr as bs ha2 hb2 h]
end

/-- `P` holds of tags whose folded short form is a function of the folded original text (so that the second disjunct
`a.org == b.org` of `teq` adds nothing: `teq_iff`) and whose key is a token text.  A premise of the theorems below;
established here only for tags written in short form (`C04.shortClean_adm`). -/
structure Adm (P : Tag → Prop) : Prop where
  coh : ∀ a b, P a → P b → a.org = b.org → a.key = b.key
  clean : ∀ a, P a → CleanStr a.key

theorem teq_iff {P : Tag → Prop} (hP : Adm P) {a b : Tag} (ha : P a) (hb : P b) :
    teq a b = true ↔ ctag a = ctag b := by
  simp only [teq, Bool.or_eq_true, beq_iff_eq, ctag, Tag.mk.injEq, and_self]
  exact ⟨fun h => h.elim id (hP.coh a b ha hb), Or.inl⟩

mutual
theorem eqv_iff {P : Tag → Prop} (hP : Adm P) : ∀ (a b : Tree), (∀ x ∈ tags a, P x) → (∀ x ∈ tags b, P x) →
    (eqv teq a b = true ↔ canon a = canon b)
  | .tag t, .tag u => fun ha hb => by
    simp only [eqv, canon, Tree.tag.injEq]
    exact teq_iff hP (ha t (.head _)) (hb u (.head _))
  | .tag _, .grp _ | .grp _, .tag _ => fun _ _ => by simp [eqv, canon]
  | .grp cs, .grp ds => fun ha hb => by
    simp only [eqv, canon, Tree.grp.injEq]
    exact eqvL_iff hP cs ds ha hb
theorem eqvL_iff {P : Tag → Prop} (hP : Adm P) : ∀ (as bs : List Tree), (∀ x ∈ tagsL as, P x) →
    (∀ x ∈ tagsL bs, P x) → (eqvL teq as bs = true ↔ canonL as = canonL bs)
  | [], [] | [], _ :: _ | _ :: _, [] => fun _ _ => by simp [eqvL, canonL]
  | a :: as, b :: bs => fun ha hb => by
    obtain ⟨ha1, ha2⟩ := forall_tagsL_cons.mp ha
    obtain ⟨hb1, hb2⟩ := forall_tagsL_cons.mp hb
    simp only [eqvL, canonL, Bool.and_eq_true, List.cons.injEq, eqv_iff hP a b ha1 hb1, eqvL_iff hP as bs ha2 hb2]
end

theorem issueOf_congr {a b : Tree} (h : canon a = canon b) : issueOf a = issueOf b := by
  rw [issueOf, issueOf, skey_eq_of_canon h, ← isTag_canon a, h, isTag_canon b]

theorem eqPrev_iff {P : Tag → Prop} (hP : Adm P) {a : Tree} (ha : ∀ x ∈ tags a, P x) {prev : Option Tree}
    (hp : ∀ p, prev = some p → ∀ x ∈ tags p, P x) : eqPrev teq prev a = true ↔ prev.map canon = some (canon a) := by
  cases prev with
  | none => simp [eqPrev]
  | some p => simp only [eqPrev, eqv_iff hP a p ha (hp p rfl), Option.map_some, Option.some.injEq, eq_comm]

mutual
theorem dupT_congr {P : Tag → Prop} (hP : Adm P) : ∀ (a b : Tree), (∀ x ∈ tags a, P x) → (∀ x ∈ tags b, P x) →
    canon a = canon b → dupT teq a = dupT teq b
  | .tag _, .tag _ => fun _ _ _ => rfl
  | .tag _, .grp _ | .grp _, .tag _ => fun _ _ h => nomatch h
  | .grp cs, .grp ds => fun ha hb h =>
    dupL_congr hP cs ds none none ha hb (fun _ h => nomatch h) (fun _ h => nomatch h) rfl (Tree.grp.inj h)
/-- The duplicate loop sees a sorted view only through its canonical form. -/
theorem dupL_congr {P : Tag → Prop} (hP : Adm P) : ∀ (xs ys : List Tree) (prev prev' : Option Tree),
    (∀ x ∈ tagsL xs, P x) → (∀ x ∈ tagsL ys, P x) →
    (∀ p, prev = some p → ∀ x ∈ tags p, P x) → (∀ p, prev' = some p → ∀ x ∈ tags p, P x) →
    prev.map canon = prev'.map canon → canonL xs = canonL ys → dupL teq prev xs = dupL teq prev' ys
  | [], [] => fun _ _ _ _ _ _ _ _ => rfl
  | [], _ :: _ | _ :: _, [] => fun _ _ _ _ _ _ _ h => nomatch h
  | a :: as, b :: bs => fun prev prev' ha hb hp hp' hpp h => by
    obtain ⟨hab, h⟩ := List.cons.inj h
    obtain ⟨ha1, ha2⟩ := forall_tagsL_cons.mp ha
    obtain ⟨hb1, hb2⟩ := forall_tagsL_cons.mp hb
    have e1 : eqPrev teq prev a = eqPrev teq prev' b :=
      Bool.eq_iff_iff.mpr (by rw [eqPrev_iff hP ha1 hp, eqPrev_iff hP hb1 hp', hpp, hab])
    rw [dupL, dupL, e1, issueOf_congr hab, dupT_congr hP a b ha1 hb1 hab,
      dupL_congr hP as bs (some a) (some b) ha2 hb2 (fun _ h => Option.some.inj h ▸ ha1)
        (fun _ h => Option.some.inj h ▸ hb1) (congrArg some hab) h]
end

theorem dupL_congr_top {P : Tag → Prop} (hP : Adm P) {xs ys : List Tree} (hx : ∀ x ∈ tagsL xs, P x)
    (hy : ∀ x ∈ tagsL ys, P x) (h : canonL xs = canonL ys) : dupL teq none xs = dupL teq none ys :=
  dupL_congr hP xs ys none none hx hy (fun _ h => nomatch h) (fun _ h => nomatch h) rfl h

theorem issues_congr {P : Tag → Prop} (hP : Adm P) {top top' : List Tree} (hg : ∀ x ∈ tagsL top, P x)
    (hg' : ∀ x ∈ tagsL top', P x) (h : Same (.grp top) (.grp top')) : issues top = issues top' :=
  dupL_congr_top hP (fun x hx => hg x ((tags_sortedView ltNew top x).mp hx))
    (fun x hx => hg' x ((tags_sortedView ltNew top' x).mp hx)) (Tree.grp.inj h)

theorem dupT_sub_dupL (e : Tag → Tag → Bool) (l : List Tree) (prev : Option Tree) (c : Tree) (h : c ∈ l) :
    ∀ i ∈ dupT e c, i ∈ dupL e prev l := by
  intro i hi
  induction l generalizing prev with
  | nil => nomatch h
  | cons d ds ih =>
    simp only [dupL, List.mem_append]
    rcases List.mem_cons.mp h with rfl | h
    · exact Or.inl (Or.inr hi)
    · exact Or.inr (ih (some d) h)

theorem dupL_append (e : Tag → Tag → Bool) (l1 l2 : List Tree) (prev : Option Tree) :
    ∃ q, dupL e prev (l1 ++ l2) = dupL e prev l1 ++ dupL e q l2 := by
  induction l1 generalizing prev with
  | nil => exact ⟨prev, rfl⟩
  | cons a l1 ih =>
    obtain ⟨q, hq⟩ := ih (some a)
    exact ⟨q, by simp only [List.cons_append, dupL, hq, List.append_assoc]⟩

/-- In a key-sorted list the entry next to the first occurrence of a repeated key has that key too, hence (unique
readability) the same canonical form: the loop reports it. -/
theorem sorted_repeat_reported {P : Tag → Prop} (hP : Adm P) {v : Str} {S : List Tree} (hS : S.Pairwise (LeK skey))
    (hSP : ∀ c ∈ S, ∀ x ∈ tags c, P x) (hv : 2 ≤ S.countP (fun c => skey c == v)) (prev : Option Tree) :
    ∃ i ∈ dupL teq prev S, i.key = v := by
  induction S generalizing prev with
  | nil => nomatch hv
  | cons a S ih =>
    obtain ⟨ha, hS'⟩ := List.pairwise_cons.mp hS
    by_cases hav : skey a = v
    · simp only [List.countP_cons, hav, beq_self_eq_true, ↓reduceIte] at hv
      obtain ⟨z, hz, hzv⟩ := List.countP_pos_iff.mp (Nat.le_of_succ_le_succ hv)
      rw [beq_iff_eq] at hzv
      cases S with
      | nil => nomatch hz
      | cons b S' =>
        have hbv : skey b = v := by
          rcases List.mem_cons.mp hz with rfl | hz'
          · exact hzv
          · exact strLt_total _ _ (hav ▸ ha b List.mem_cons_self) (hzv ▸ (List.pairwise_cons.mp hS').1 z hz')
        have hPa := hSP a List.mem_cons_self
        have hPb := hSP b (List.mem_cons_of_mem _ List.mem_cons_self)
        have heq : eqv teq b a = true := (eqv_iff hP b a hPb hPa).mpr (canon_eq_of_skey
          (fun x hx => hP.clean x (hPb x hx)) (fun x hx => hP.clean x (hPa x hx)) (hbv.trans hav.symm))
        exact ⟨issueOf b, by simp [dupL, eqPrev, heq], hbv⟩
    · simp only [List.countP_cons, beq_iff_eq, hav, ↓reduceIte, Nat.add_zero] at hv
      obtain ⟨i, hi, hk⟩ := ih hS' (fun c hc => hSP c (List.mem_cons_of_mem _ hc)) hv (some a)
      exact ⟨i, by rw [dupL]; exact List.mem_append_right _ hi, hk⟩

/-- `g` occurs in `t` (as `t` itself or a group nested in it) -/
inductive Sub : Tree → Tree → Prop
  | refl (t : Tree) : Sub t t
  | step {g c : Tree} {cs : List Tree} : c ∈ cs → Sub g c → Sub g (.grp cs)

theorem sub_reported {g t : Tree} (h : Sub g t) : ∀ i ∈ dupT teq (sortT ltNew g), i ∈ dupT teq (sortT ltNew t) := by
  induction h with
  | refl => exact fun i hi => hi
  | @step c cs hc _ ih =>
    intro i hi
    exact dupT_sub_dupL teq _ none (sortT ltNew c) ((view_perm ltNew cs).mem_iff.mpr (List.mem_map_of_mem hc)) i
      (ih i hi)

theorem sub_tags {g t : Tree} (h : Sub g t) : ∀ x ∈ tags g, x ∈ tags t := by
  induction h with
  | refl => exact fun x hx => hx
  | @step c cs hc _ ih => exact fun x hx => mem_tagsL.mpr ⟨c, hc, ih x hx⟩

theorem repeated_in_group {P : Tag → Prop} (hP : Adm P) (l1 l2 l3 : List Tree) (x y : Tree)
    (hg : ∀ t ∈ tagsL (l1 ++ x :: (l2 ++ y :: l3)), P t) (hxy : Same x y) :
    ∃ i ∈ dupT teq (sortT ltNew (.grp (l1 ++ x :: (l2 ++ y :: l3)))), i.key = skey (sortT ltNew x) := by
  have hvy : skey (sortT ltNew y) = skey (sortT ltNew x) := (skey_eq_of_canon hxy).symm
  have hty : isTag (sortT ltNew y) = isTag (sortT ltNew x) := by rw [← isTag_canon, ← hxy, isTag_canon]
  generalize hE : sortKids ltNew (l1 ++ x :: (l2 ++ y :: l3)) = E
  have hhalf : ∀ p : Tree → Bool, p (sortT ltNew x) = true → p (sortT ltNew y) = true → ∀ prev,
      ∃ i ∈ dupL teq prev (half ltNew p E), i.key = skey (sortT ltNew x) := by
    intro p hpx hpy
    refine sorted_repeat_reported hP (half_pairwise p E) ?_ ?_
    · intro c hc t ht
      obtain ⟨e, he, rfl⟩ := List.mem_map.mp (List.mem_filter.mp ((half_perm ltNew p E).mem_iff.mp hc)).1
      exact hg t (tags_sortKids (hE ▸ he) ht)
    · rw [(half_perm ltNew p E).countP_eq, ← hE]
      simp only [sortKids_eq_map, List.map_map, List.map_append, List.map_cons, List.filter_append, List.filter_cons,
        hpx, hpy, ↓reduceIte, List.countP_append, List.countP_cons, hvy, beq_self_eq_true]
      omega
  -- the loop enters the groups-half with the last tag as `prev`; `sorted_repeat_reported` holds for any `prev`
  obtain ⟨q, hq⟩ := dupL_append teq (half ltNew isTag E) (half ltNew isGrp E) none
  rw [sortT, dupT, hE, arrange_eq, hq]
  cases hx : isTag (sortT ltNew x)
  · obtain ⟨i, hi, hk⟩ := hhalf isGrp (by simp [isGrp_eq_not, hx]) (by simp [isGrp_eq_not, hty, hx]) q
    exact ⟨i, List.mem_append_right _ hi, hk⟩
  · obtain ⟨i, hi, hk⟩ := hhalf isTag hx (hty.trans hx) none
    exact ⟨i, List.mem_append_left _ hi, hk⟩

theorem dupL_nil (e : Tag → Tag → Bool) (L : List Tree) (prev : Option Tree) (h1 : ∀ c ∈ L, dupT e c = [])
    (h2 : L.Pairwise (fun a b => eqv e b a = false)) (h3 : ∀ p, prev = some p → ∀ c ∈ L, eqv e c p = false) :
    dupL e prev L = [] := by
  induction L generalizing prev with
  | nil => rfl
  | cons c L ih =>
    obtain ⟨hc, hL⟩ := List.pairwise_cons.mp h2
    have e1 : eqPrev e prev c = false := by
      cases prev with
      | none => rfl
      | some p => exact h3 p rfl c List.mem_cons_self
    rw [dupL, e1, h1 c List.mem_cons_self, ih (some c) (fun d hd => h1 d (List.mem_cons_of_mem _ hd)) hL
      (fun p hp d hd => Option.some.inj hp ▸ hc d hd)]
    rfl

/-- no group of `t` (nor `t` itself) has two members that are equal up to spelling and order -/
def NoRepeat (t : Tree) : Prop := ∀ cs, Sub (.grp cs) t → cs.Pairwise (fun x y => ¬ Same x y)

theorem noRepeat_nil {P : Tag → Prop} (hP : Adm P) (t : Tree) : (∀ x ∈ tags t, P x) → NoRepeat t →
    dupT teq (sortT ltNew t) = [] := by
  induction t using Tree.induction with
  | tag _ => exact fun _ _ => rfl
  | grp cs ih =>
    intro hg hn
    have hview := view_perm ltNew cs
    have hall : ∀ c ∈ arrange ltNew (sortKids ltNew cs), ∀ x ∈ tags c, P x := fun c hc x hx =>
      hg x ((tags_sortT ltNew (.grp cs) x).mp (mem_tagsL.mpr ⟨c, hc, hx⟩))
    refine dupL_nil teq _ none ?_ ?_ (fun _ h => nomatch h)
    · intro c hc
      obtain ⟨c0, hc0, rfl⟩ := List.mem_map.mp (hview.mem_iff.mp hc)
      exact ih c0 hc0 (fun x hx => hg x (mem_tagsL.mpr ⟨c0, hc0, hx⟩)) (fun cs' hs => hn cs' (.step hc0 hs))
    · -- no two members are `Same`; this does not depend on their order, and is what `eqv` tests
      have hpw : (cs.map (sortT ltNew)).Pairwise (fun a b => canon a ≠ canon b) :=
        List.pairwise_map.mpr (hn cs (.refl _))
      refine (hpw.perm hview.symm fun h => h.symm).imp_of_mem fun {a b} ha hb hab => ?_
      exact Bool.eq_false_iff.mpr fun h => hab ((eqv_iff hP b a (hall b hb) (hall a ha)).mp h).symm

theorem noRepeatL_nil {P : Tag → Prop} (hP : Adm P) : ∀ (cs : List Tree), (∀ x ∈ tagsL cs, P x) →
    (∀ c ∈ cs, NoRepeat c) → ∀ c ∈ cs, dupT teq (sortT ltNew c) = [] :=
  fun _ hg hn c hc => noRepeat_nil hP c (fun x hx => hg x (mem_tagsL.mpr ⟨c, hc, hx⟩)) (hn c hc)

mutual
theorem crashT_guard (e : Tag → Tag → Bool) : ∀ t : Tree, crashT true e t = false
  | .tag _ => rfl
  | .grp cs => crashL_guard e cs none
theorem crashL_guard (e : Tag → Tag → Bool) : ∀ (l : List Tree) (prev : Option Tree), crashL true e prev l = false
  | [], _ => rfl
  | c :: cs, prev => by simp [crashL, crashT_guard e c, crashL_guard e cs (some c)]
end

namespace Scan

theorem dropWhile_snoc (ws : Char → Bool) (c : Char) (hc : ws c = false) (pre : Str) :
    (pre ++ [c]).dropWhile ws = pre.dropWhile ws ++ [c] := by
  induction pre with
  | nil => simp [hc]
  | cons a pre ih => cases ha : ws a <;> simp [ha, ih]

theorem dropWhile_eq_nil (ws : Char → Bool) (l : Str) : l.dropWhile ws = [] ↔ l.all ws = true := by
  induction l with
  | nil => simp
  | cons a l ih => cases ha : ws a <;> simp [ha, ih]

/-- `(current_tag + c).strip() == c`, for a non-blank `c`, says that `current_tag` is blank -/
theorem strip_snoc (ws : Char → Bool) (c : Char) (hc : ws c = false) (pre : Str) :
    (strip ws (pre ++ [c]) == [c]) = pre.all ws := by
  have hs : strip ws (pre ++ [c]) = pre.dropWhile ws ++ [c] := by
    simp [strip, dropWhile_snoc ws c hc, hc]
  rw [hs, Bool.eq_iff_iff, beq_iff_eq, List.append_left_eq_self, dropWhile_eq_nil]

/-- `b` is `a` up to `cur`, of which the loop only uses whether it is blank -/
def Rel (ws : Char → Bool) (a b : St) : Prop := ∃ x, b = { a with cur := x } ∧ a.cur.all ws = x.all ws

theorem rel_ite {ws : Char → Bool} {p : Prop} [Decidable p] {x y x' y' : St} (h1 : Rel ws x x') (h2 : Rel ws y y') :
    Rel ws (if p then x else y) (if p then x' else y') := by
  split
  · exact h1
  · exact h2

/-- On a non-blank, by `strip_snoc`, related states take the same branches.  The right side has the shape
`List.foldl_filter` produces. -/
theorem step_rel (ws : Char → Bool) {a b : St} (c : Char) (h : Rel ws a b) :
    Rel ws (step ws a c) (if (!ws c) = true then step ws b c else b) := by
  obtain ⟨x, rfl, hx⟩ := h
  cases hc : ws c
  · simp only [step, hc, strip_snoc ws c hc, hx, Bool.not_false, Bool.false_eq_true, ↓reduceIte]
    repeat' apply rel_ite
    all_goals exact ⟨_, rfl, by simp [hc, hx]⟩
  · simp only [step, hc, Bool.not_true, Bool.false_eq_true, ↓reduceIte]
    split
    · exact ⟨x, rfl, hx⟩
    · exact ⟨x, rfl, by simp [hc, hx]⟩

theorem scan_filter (ws : Char → Bool) (s : Str) : scan ws s = scan ws (s.filter fun c => !ws c) := by
  have hr : Rel ws (s.foldl (step ws) {}) ((s.filter fun c => !ws c).foldl (step ws) {}) := by
    rw [List.foldl_filter]
    exact List.foldl_rel ⟨[], rfl, rfl⟩ fun c _ _ _ hab => step_rel ws c hab
  obtain ⟨x, hx, _⟩ := hr
  rw [scan, scan, hx]
  rfl

end Scan

end HedVerif.Dup

namespace HedVerif.C04
open HedVerif.Dup

/-- The fixed check never raises: its result is the issue list. -/
theorem empty_groups_total (top : List Tree) : dupIssues top = .ok (issues top) := by
  simp [dupIssues, check, crashL_guard, issues]

/-- **Order.** Reordering the members of groups (or of the top level), at any depth and any number of times,
leaves the list of duplicate issues unchanged. -/
theorem order_invariant {P : Tag → Prop} (hP : Adm P) (top top' : List Tree)
    (hs : Shuffle (.grp top) (.grp top')) (hg : ∀ x ∈ tagsL top, P x) : issues top = issues top' :=
  issues_congr hP hg (fun x hx => hg x ((shuffle_tags hs x).mpr hx))
    (shuffle_same hs fun x hx => hP.clean x (hg x hx))

/-- **Spelling (rule input).** The duplicate rule sees a tag only through its resolved, folded short
form: annotations with the same canonical form have the same issues. -/
theorem spelling_invariant {P : Tag → Prop} (hP : Adm P) (top top' : List Tree) (h : canonL top = canonL top')
    (hg : ∀ x ∈ tagsL top, P x) (hg' : ∀ x ∈ tagsL top', P x) : issues top = issues top' :=
  issues_congr hP hg hg' (sortT_canon_congr (.grp top) (.grp top') (fun x hx => hP.clean x (hg x hx))
    (fun x hx => hP.clean x (hg' x hx)) (congrArg Tree.grp h))

/-- **Spelling (resolution, from C03).** Any two spellings (any suffix form of the path, in any letter case) of
a registered tag resolve to the same node with nothing left over. -/
theorem spelling_same_node (fold : List Char → List Char) (tags : List Schema.Name) (i : Nat) (n : Schema.Name)
    (hi : tags[i]? = some n) (hnd : i ∉ (Schema.Vocab.build fold tags).dups)
    (hwf : C03.WF (Schema.Vocab.build fold tags)) (f1 f2 w1 w2 : Schema.Name)
    (h1 : f1 ∈ Schema.forms n) (h2 : f2 ∈ Schema.forms n)
    (c1 : Schema.foldName fold w1 = Schema.foldName fold f1) (c2 : Schema.foldName fold w2 = Schema.foldName fold f2)
    (v1 : (Schema.foldName fold f1).getLast? ≠ some ['#']) (v2 : (Schema.foldName fold f2).getLast? ≠ some ['#']) :
    Schema.findComps (Schema.Vocab.build fold tags) fold w1 = Schema.findComps (Schema.Vocab.build fold tags) fold w2 := by
  rw [C03.direct_hit_case fold tags i n hi hnd hwf f1 w1 h1 c1 v1,
      C03.direct_hit_case fold tags i n hi hnd hwf f2 w2 h2 c2 v2]

/-- **Spacing (delimiter rule).** The delimiter scan reports the same codes for any two strings that
agree after deleting blanks. -/
theorem spacing_invariant (ws : Char → Bool) (s s' : List Char)
    (h : s.filter (fun c => !ws c) = s'.filter (fun c => !ws c)) : Scan.scan ws s = Scan.scan ws s' := by
  rw [Scan.scan_filter ws s, Scan.scan_filter ws s', h]

/-- **Spacing (tag rules, from C02).** The text of a tag, as the other rules receive it, is a token of
`split_hed_string`: non-empty, without delimiters, beginning and ending with a non-blank. -/
theorem spacing_tag_tokens (s : List Char) (t : Token) (ht : t ∈ Tok.split s) (htag : t.isTag = true) :
    t.start < t.stop ∧ t.stop ≤ s.length ∧
    (∀ k c, t.start ≤ k → k < t.stop → s[k]? = some c → Tok.isDelim c = false) ∧
    (∀ c, s[t.start]? = some c → c ≠ ' ') ∧ (∀ c, s[t.stop - 1]? = some c → c ≠ ' ') := by
  have h := (C02.tiling s).2 t ht
  simp only [TokOK, htag, ↓reduceIte] at h
  exact ⟨h.1, h.2.1, h.2.2⟩

/-- **Repeats are reported.** Two members of one group, at any depth and any two positions, that are equal up to
spelling and the order of their own members produce a TAG_EXPRESSION_REPEATED issue for that element. -/
theorem repeated_anywhere {P : Tag → Prop} (hP : Adm P) (top : List Tree) (hg : ∀ t ∈ tagsL top, P t)
    (l1 l2 l3 : List Tree) (x y : Tree) (hsub : Sub (.grp (l1 ++ x :: (l2 ++ y :: l3))) (.grp top))
    (hxy : Same x y) : ∃ i ∈ issues top, i.key = skey (sortT ltNew x) := by
  obtain ⟨i, hi, hk⟩ := repeated_in_group hP l1 l2 l3 x y (fun t ht => hg t (sub_tags hsub t ht)) hxy
  exact ⟨i, sub_reported hsub i hi, hk⟩

/-- **No false repeat.** If no group (nor the top level) has two members equal up to spelling and
member order, no duplicate issue is reported. -/
theorem no_false_repeat {P : Tag → Prop} (hP : Adm P) (top : List Tree) (hg : ∀ t ∈ tagsL top, P t)
    (hn : NoRepeat (.grp top)) : issues top = [] :=
  noRepeat_nil hP (.grp top) hg hn

/-- a tag written in short form -/
def mk (text key : Dup.Str) : Tree := .tag ⟨text, key, key⟩
def red : Tree := mk ['R','e','d'] ['r','e','d']
def blue : Tree := mk ['B','l','u','e'] ['b','l','u','e']
def green : Tree := mk ['G','r','e','e','n'] ['g','r','e','e','n']
def labelABC : Tree := mk ['L','a','b','e','l','/','A','B','C'] ['l','a','b','e','l','/','a','b','c']
def labelabc : Tree := mk ['L','a','b','e','l','/','a','b','c'] ['l','a','b','e','l','/','a','b','c']
def labelAbd : Tree := mk ['L','a','b','e','l','/','A','b','d'] ['l','a','b','e','l','/','a','b','d']
/-- `Informational-property/Label/abc`: same node and value as `Label/abc`, written with a longer path -/
def labelLong : Tree := .tag ⟨['L','a','b','e','l','/','a','b','c'], ['l','a','b','e','l','/','a','b','c'],
  ['i','n','f','o','r','m','a','t','i','o','n','a','l','-','p','r','o','p','e','r','t','y','/','l','a','b','e','l','/','a','b','c']⟩

/-- how many issues, `none` if the check raised -/
def nIssues (r : Except Unit (List Issue)) : Option Nat := r.toOption.map List.length

/-- Old code: `(Red,Blue),(Green),(Blue,Red)` is accepted, but after swapping the members of the last
group (`(Red,Blue),(Green),(Red,Blue)`) or without the unrelated `(Green)` it is rejected; the fixed
code reports one repeat in all three. -/
theorem order_counterexample :
    Shuffle (.grp [.grp [red, blue], .grp [green], .grp [blue, red]]) (.grp [.grp [red, blue], .grp [green], .grp [red, blue]]) ∧
    nIssues (dupIssuesOld [.grp [red, blue], .grp [green], .grp [blue, red]]) = some 0 ∧
    nIssues (dupIssuesOld [.grp [red, blue], .grp [green], .grp [red, blue]]) = some 1 ∧
    nIssues (dupIssuesOld [.grp [red, blue], .grp [blue, red]]) = some 1 ∧
    nIssues (dupIssues [.grp [red, blue], .grp [green], .grp [blue, red]]) = some 1 ∧
    nIssues (dupIssues [.grp [red, blue], .grp [green], .grp [red, blue]]) = some 1 ∧
    nIssues (dupIssues [.grp [red, blue], .grp [blue, red]]) = some 1 := by
  refine ⟨?_, by decide, by decide, by decide, by decide, by decide, by decide⟩
  exact Shuffle.inside (pre := [.grp [red, blue], .grp [green]]) (post := []) (Shuffle.perm (List.Perm.swap _ _ _))

/-- Old code: `Label/ABC, Label/abc` is reported, `Label/ABC, Label/Abd, Label/abc` is not (the
case-sensitive sort puts `Label/Abd` between the two equal tags); the fixed code reports both. -/
theorem case_counterexample :
    nIssues (dupIssuesOld [labelABC, labelabc]) = some 1 ∧
    nIssues (dupIssuesOld [labelABC, labelAbd, labelabc]) = some 0 ∧
    nIssues (dupIssues [labelABC, labelabc]) = some 1 ∧
    nIssues (dupIssues [labelABC, labelAbd, labelabc]) = some 1 := by
  refine ⟨by decide, by decide, by decide, by decide⟩

/-- Old code: the old `__eq__` compares the short forms case-sensitively and otherwise the raw texts, so
`Label/ABC, Label/abc` is reported but `Label/ABC, Informational-property/Label/abc` is not; the fixed
code reports both. -/
theorem spelling_counterexample :
    nIssues (dupIssuesOld [labelABC, labelabc]) = some 1 ∧
    nIssues (dupIssuesOld [labelABC, labelLong]) = some 0 ∧
    nIssues (dupIssues [labelABC, labelLong]) = some 1 := by
  refine ⟨by decide, by decide, by decide⟩

/-- Old code: `(),()` makes `found_group[0]` fail (IndexError) — validation raises. -/
theorem empty_groups_counterexample :
    (dupIssuesOld [.grp [], .grp []]).toOption = none ∧ (dupIssues [.grp [], .grp []]).toOption = some [⟨.grp, ['(', ')']⟩] := by
  decide

/-! ### the hypotheses can be met -/

def ShortClean (t : Tag) : Prop := t.org = t.key ∧ CleanStr t.key

instance (t : Tag) : Decidable (ShortClean t) := inferInstanceAs (Decidable (_ ∧ _))

theorem shortClean_adm : Adm ShortClean :=
  ⟨fun a b ha hb h => by rw [← ha.1, ← hb.1, h], fun _ h => h.2⟩

example : ∀ x ∈ tagsL [.grp [red, blue], .grp [green], .grp [blue, red]], ShortClean x := by
  decide

example : Same (.grp [red, blue]) (.grp [blue, red]) :=
  shuffle_same (Shuffle.perm (List.Perm.swap _ _ _)) (by decide)

example : issues [.grp [red, blue], .grp [green], .grp [blue, red]] = [⟨.grp, ['(','b','l','u','e',',','r','e','d',')']⟩] := by
  decide

example : NoRepeat (.tag ⟨['a'], ['a'], ['a']⟩) := by
  intro cs h; cases h

end HedVerif.C04
