import HedVerif.Props.C04.Rules
import HedVerif.Props.ListCongr
namespace HedVerif.Rewrite
open HedVerif HedVerif.Validate HedVerif.Generated.CodeMap

/-!
# C04: the phases of `HedValidator.validate` on related trees

Goal: `validateP_sim`. `Rules.lean` treats the rules that look at one group or one tag; here is what depends on
positions and on the order of the phases: the positional definition flag, "n/a" and the second canonicalisation pass,
the rule on Onset/Offset/Inset groups by an order-free count (its premise `DefItemsOK` comes from the definition check
that ran before). The last three sections (`SameTag`, texts to trees, blanks) are used by `Texts.lean` only.
-/

theorem perm_cons_filter_ne {α β : Type} [BEq β] [LawfulBEq β] (f : α → β) : ∀ {l : List α}, (l.map f).Nodup →
    ∀ {y : α}, y ∈ l → l.Perm (y :: l.filter fun c => f c != f y)
  | a :: l, hN, y, hy => by
    rw [List.map_cons, List.nodup_cons] at hN
    rcases List.mem_cons.mp hy with rfl | hy'
    · have hl : l.filter (fun c => f c != f y) = l :=
        List.filter_eq_self.mpr fun c hc => bne_iff_ne.mpr fun e => hN.1 (e ▸ List.mem_map_of_mem hc)
      simp only [List.filter_cons, bne_self_eq_false, Bool.false_eq_true, ↓reduceIte, hl]
      exact List.Perm.refl _
    · have ha : (f a != f y) = true := bne_iff_ne.mpr fun e => hN.1 (e ▸ List.mem_map_of_mem hy')
      simp only [List.filter_cons, ha, ↓reduceIte]
      exact ((perm_cons_filter_ne f hN.2 hy').cons a).trans (List.Perm.swap y a _)

/-- pulls a permutation of abstract members back to the `Node`s they came from -/
theorem perm_map_exists {α β : Type} (f : α → β) : ∀ (m : List β) (l : List α), m.Perm (l.map f) →
    ∃ l' : List α, l'.Perm l ∧ m = l'.map f
  | [], l, h => by
    rw [List.map_eq_nil_iff.mp h.nil_eq.symm]
    exact ⟨[], .refl _, rfl⟩
  | a :: m, l, h => by
    have ha : a ∈ l.map f := h.subset (by simp)
    obtain ⟨x, hx, rfl⟩ := List.mem_map.mp ha
    obtain ⟨l1, l2, rfl⟩ := List.append_of_mem hx
    rw [List.map_append, List.map_cons] at h
    obtain ⟨l', hl', rfl⟩ := perm_map_exists f m (l1 ++ l2) (by
      rw [List.map_append]
      exact (h.trans List.perm_middle).cons_inv)
    exact ⟨x :: l', (List.Perm.cons x hl').trans List.perm_middle.symm, rfl⟩


section phases
variable {R : RTag → RTag → Prop} {env : Env}

/-! ### the definition flag of `_validate_individual_tags_in_hed_string` is positional -/

theorem groups_tree :
    (∀ (k : RNode) (top : Bool) (g : GV), g ∈ groupsNode top k → g.isGroup = true ∧ g.span.1 ∈ rstartsNode k) ∧
    (∀ (l : List RNode) (top : Bool) (g : GV), g ∈ groupsList top l → g.isGroup = true ∧ g.span.1 ∈ rstartsList l) := by
  refine tree_ind (fun _ _ _ h => ?_) (fun s ks ih top g h => ?_) (fun _ _ h => ?_) (fun k ks ihk ihks top g h => ?_)
  · simp [groupsNode] at h
  · simp only [groupsNode, List.mem_cons] at h
    rcases h with rfl | h
    · exact ⟨rfl, List.mem_cons_self ..⟩
    · exact ⟨(ih false g h).1, List.mem_cons_of_mem _ (ih false g h).2⟩
  · simp [groupsList] at h
  · simp only [groupsList, List.mem_append] at h
    rcases h with h | h
    · exact ⟨(ihk top g h).1, List.mem_append_left _ (ihk top g h).2⟩
    · exact ⟨(ihks top g h).1, List.mem_append_right _ (ihks top g h).2⟩

theorem groupsList_isGroup : ∀ (top : Bool) (l : List RNode) (g : GV), g ∈ groupsList top l → g.isGroup = true :=
  fun top l g h => (groups_tree.2 l top g h).1
theorem groupsList_start : ∀ (top : Bool) (l : List RNode) (g : GV), g ∈ groupsList top l → g.span.1 ∈ rstartsList l :=
  fun top l g h => (groups_tree.2 l top g h).2

theorem rstartsList_eq (l : List RNode) : rstartsList l = l.flatMap rstartsNode := by
  induction l with
  | nil => rfl
  | cons k ks ih => simp [rstartsList, ih]

def holdsDefNode (env : Env) : RNode → Bool
  | .tag _ => false
  | .group _ kids => holdsDefinition env kids

theorem definitionSpans_eq (env : Env) (root : List RNode) :
    definitionSpans env root = root.flatMap fun k => if holdsDefNode env k then (groupsNode true k).map (·.span) else [] := by
  unfold definitionSpans
  induction root with
  | nil => rfl
  | cons k ks ih =>
    cases k with
    | tag t => simpa [directGroups, holdsDefNode] using ih
    | group s kids =>
      simp only [directGroups, List.flatMap_cons, holdsDefNode, groupsNode, List.map_cons, ih]

/-- with distinct start positions, "the span is one of the definition spans" says "sits in a top-level group that
holds a Definition" -/
theorem isDefGroup_pos {pre post : List RNode} {k : RNode}
    (hn : (rstartsList (pre ++ k :: post)).Nodup) {g : GV} (hg : g ∈ groupsNode true k) :
    isDefGroup env (pre ++ k :: post) g = holdsDefNode env k := by
  obtain ⟨hgrp, hst⟩ := groups_tree.1 k true g hg
  unfold isDefGroup
  rw [hgrp, Bool.true_and, definitionSpans_eq, Bool.eq_iff_iff, List.contains_iff_mem]
  rw [rstartsList_eq, List.flatMap_append, List.flatMap_cons] at hn
  constructor
  · intro hm
    obtain ⟨k', hk', hm'⟩ := List.mem_flatMap.mp hm
    by_cases hd : holdsDefNode env k' = true
    · simp only [hd, ↓reduceIte, List.mem_map] at hm'
      obtain ⟨g', hg', hsp⟩ := hm'
      have hst' := (groups_tree.1 k' true g' hg').2
      rw [hsp] at hst'
      rw [List.nodup_append] at hn
      obtain ⟨_, hn2, hdis⟩ := hn
      rw [List.nodup_append] at hn2
      obtain ⟨_, _, hdis2⟩ := hn2
      rcases List.mem_append.mp hk' with hp | hp
      · exact absurd rfl (hdis g.span.1 (List.mem_flatMap.mpr ⟨k', hp, hst'⟩) g.span.1
          (List.mem_append.mpr (Or.inl hst)))
      · rcases List.mem_cons.mp hp with rfl | hp
        · exact hd
        · exact absurd rfl (hdis2 g.span.1 hst g.span.1 (List.mem_flatMap.mpr ⟨k', hp, hst'⟩))
    · simp [hd] at hm'
  · intro hd
    refine List.mem_flatMap.mpr ⟨k, by simp, ?_⟩
    simp only [hd, ↓reduceIte, List.mem_map]
    exact ⟨g, hg, rfl⟩

/-- `len` does not occur on the right: `individualPhase_sim` compares texts of different lengths -/
theorem individualPhase_struct {ph : Bool} {len : Nat} {root : List RNode} (hn : (rstartsList root).Nodup) :
    individualPhase env ph len root =
      (directTags root).flatMap (tagSemIssues env ph false) ++
      root.flatMap fun k => (groupsNode true k).flatMap fun g =>
        (directTags g.kids).flatMap (tagSemIssues env ph (holdsDefNode env k)) := by
  unfold individualPhase allGroups
  rw [List.flatMap_cons, groupsList_eq, List.flatMap_assoc]
  refine congrArg _ (flatMap_congr' fun k hk => flatMap_congr' fun g hg => ?_)
  obtain ⟨pre, post, rfl⟩ := List.append_of_mem hk
  rw [isDefGroup_pos hn hg]

theorem holdsDefNode_sim (hR : ∀ t t', R t t' → Core t t') {k k' : RNode} (h : NodeSim R k k') :
    holdsDefNode env k = holdsDefNode env k' :=
  NodeSim.byCases (motive := fun k k' _ => holdsDefNode env k = holdsDefNode env k') (fun _ _ _ => rfl)
    (fun _ _ _ _ hf => hf.directTags_any _ _ fun t t' htt => by rw [(hR t t' htt).shortBase]) k k' h

theorem individualPhase_sim (hR : ∀ t t', R t t' → Core t t') (ph : Bool) {l l' : List RNode} (h : ForestSim R l l')
    (len len' : Nat) (hn : (rstartsList l).Nodup) (hn' : (rstartsList l').Nodup) :
    (errCodes (individualPhase env ph len l)).Perm (errCodes (individualPhase env ph len' l')) := by
  rw [individualPhase_struct hn, individualPhase_struct hn']
  simp only [errCodes_append, errCodes_flatMap]
  refine (h.directTags_flatMap fun t t' htt => .of_eq (tagSemIssues_core (hR t t' htt) ph false).symm).append
    (h.flatMap_perm _ _ fun k _ k' _ hk => ?_)
  rw [holdsDefNode_sim hR hk]
  exact NodeSim.groups_flatMap true k k' hk fun g _ g' _ hgg =>
    hgg.2.2.directTags_flatMap fun t t' htt => .of_eq (tagSemIssues_core (hR t t' htt) ph _).symm

/-! ### "n/a", the second canonicalisation pass -/

theorem strList_na (env : Env) (l : List RNode) :
    strList env l = ['n', '/', 'a'] ↔
      l.length = 1 ∧ (directTags l).any (fun t => strOf env t == ['n', '/', 'a']) = true := by
  match l with
  | [] => exact ⟨fun h => (nomatch h), fun h => (nomatch h.1)⟩
  | [.tag t] =>
    show strOf env t = _ ↔ _
    simp [directTags]
  | [.group _ _] => exact ⟨fun h => absurd (List.cons.inj h).1 (by decide), fun h => (nomatch h.2)⟩
  | n :: m :: ns =>
    refine ⟨fun h => ?_, fun h => (nomatch h.1)⟩
    have : ',' ∈ strList env (n :: m :: ns) := List.mem_append_right _ (List.mem_cons_self ..)
    rw [h] at this
    exact absurd this (by decide)

theorem isNA_sim (hR : ∀ t t', R t t' → Core t t') {l l' : List RNode} (h : ForestSim R l l') :
    isNA env l = isNA env l' := by
  unfold isNA
  rw [Bool.eq_iff_iff, beq_iff_eq, beq_iff_eq, strList_na, strList_na, h.length_eq,
    h.directTags_any _ _ fun t t' htt => by rw [← (hR t t' htt).strOf]]

theorem recanonList_map (env : Env) (l : List RNode) :
    (recanonList env l).1 = l.map (fun n => (recanonNode env n).1) := by
  induction l with
  | nil => rfl
  | cons k ks ih => simp [recanonList, ih]

theorem recanon_sim (hrec : ∀ t t', R t t' → R (canon env t).1 (canon env t').1) :
    (∀ (k k' : RNode), NodeSim R k k' → NodeSim R (recanonNode env k).1 (recanonNode env k').1) ∧
    (∀ (l m : List RNode), PointSim R l m → PointSim R (recanonList env l).1 (recanonList env m).1) :=
  sim_ind hrec
    (fun _ _ _ m _ _ hp ih => ⟨(recanonList env m).1, ih, by rw [recanonList_map, recanonList_map]; exact hp.map _⟩)
    True.intro (fun _ _ _ _ _ _ hk hks => ⟨hk, hks⟩)

theorem NodeSim.recanon (hrec : ∀ t t', R t t' → R (canon env t).1 (canon env t').1) : ∀ (k k' : RNode),
    NodeSim R k k' → NodeSim R (recanonNode env k).1 (recanonNode env k').1 :=
  (recanon_sim hrec).1

theorem ForestSim.recanon (hrec : ∀ t t', R t t' → R (canon env t).1 (canon env t').1) {l l' : List RNode}
    (h : ForestSim R l l') : ForestSim R (recanonList env l).1 (recanonList env l').1 :=
  NodeSim.recanon hrec (.group (0, 0) l) (.group (0, 0) l') h


end phases

theorem canon_congr (env : Env) {t t' : RTag} (hn : t'.ns = t.ns) (hs : strOf env t' = strOf env t)
    (hx : t'.extVal = t.extVal) :
    (canon env t').1.entry = (canon env t).1.entry ∧ (canon env t').1.extVal = (canon env t).1.extVal ∧
      sigs (canon env t').2 = sigs (canon env t).2 := by
  unfold canon
  rw [hn, hs]
  split
  · exact ⟨rfl, hx, rfl⟩
  · simp only
    cases Schema.find env.vocab fold (List.drop t.ns.length (strOf env t)) with
    | found i rem => exact ⟨rfl, by simp only [hx], rfl⟩
    | noValidTag | invalidParent => exact ⟨rfl, hx, rfl⟩

theorem canon_span (env : Env) (t : RTag) : (canon env t).1.span = t.span := (C01.canon_keeps env t).1

theorem canon_core_sigs (env : Env) {t t' : RTag} (h : Core t t') : sigs (canon env t').2 = sigs (canon env t).2 :=
  (canon_congr env h.ns h.strOf h.ext).2.2


theorem rstarts_recanon (env : Env) : ∀ (l : List RNode), rstartsList (recanonList env l).1 = rstartsList l :=
  (tree_ind (P := fun k => rstartsNode (recanonNode env k).1 = rstartsNode k)
    (fun t => congrArg (fun s : Nat × Nat => [s.1]) (canon_span env t)) (fun s _ ih => congrArg (s.1 :: ·) ih) rfl
    (fun k ks ihk ihks => by
      show rstartsNode _ ++ rstartsList _ = _
      rw [ihk, ihks]
      rfl)).2

/-! ### the rule on Onset/Offset/Inset groups (`validate_onset_offset`) -/

def tcode : Str := val_TEMPORAL_TAG_ERROR

section onset
variable {env : Env} {R : RTag → RTag → Prop}

/-- the test of `topLevelAnchored env temporalKeys` -/
def anchorP (env : Env) (t : RTag) : Bool := (temporalKeys.map fold).contains (fold (shortBase env t))

theorem anchor_not_delay {t : RTag} (h : anchorP env t = true) : (shortBase env t == delayKey) = false := by
  cases hx : shortBase env t == delayKey with
  | false => rfl
  | true =>
    rw [beq_iff_eq] at hx
    rw [anchorP, hx] at h
    exact absurd h (by decide)

theorem anchor_not_def {t : RTag} (h : anchorP env t = true) : (shortBase env t == defKey) = false := by
  cases hx : shortBase env t == defKey with
  | false => rfl
  | true =>
    rw [beq_iff_eq] at hx
    rw [anchorP, hx] at h
    exact absurd h (by decide)

/-- the Def items one member contributes to `find_def_tags` -/
def defItemsNode (env : Env) : RNode → List (RTag × (Nat × Nat))
  | .tag t => if shortBase env t == defKey then [(t, t.span)] else []
  | .group s kids => ((directTags kids).filter (fun t => shortBase env t == defExpandKey)).map (fun t => (t, s))

theorem defItemsOf_eq (env : Env) (l : List RNode) : defItemsOf env l = l.flatMap (defItemsNode env) := by
  induction l with
  | nil => rfl
  | cons k ks ih => cases k <;> simp [defItemsOf, defItemsNode, ih]

theorem tagIs_tag (p : RTag → Bool) (t : RTag) : tagIs p (.tag t) = p t := rfl

theorem countP_tagIs_mono {p q : RTag → Bool} (h : ∀ t, p t = true → q t = true) (l : List RNode) :
    l.countP (tagIs p) ≤ l.countP (tagIs q) :=
  List.countP_mono_left fun c _ hc => by
    cases c with
    | tag t => exact h t hc
    | group _ _ => cases hc

theorem defItemsNode_mem {x : RNode} {it : RTag × (Nat × Nat)} (h : it ∈ defItemsNode env x) :
    nodeSpan x = it.2 ∧
      ∀ p : RTag → Bool, (∀ t, p t = true → (shortBase env t == defKey) = false) → tagIs p x = false := by
  cases x with
  | tag t =>
    simp only [defItemsNode] at h
    split at h
    · rename_i hd
      rw [List.mem_singleton] at h
      subst h
      refine ⟨rfl, fun p hp => ?_⟩
      cases hpt : p t with
      | false => exact hpt
      | true => rw [hp t hpt] at hd; cases hd
    · cases h
  | group s ks =>
    obtain ⟨t, _, rfl⟩ := List.mem_map.mp h
    exact ⟨rfl, fun _ _ => rfl⟩

/-- up to order: the anchor, the member holding the one Def item, and the code's `children` before the Delay filter -/
theorem anchored_perm {kids : List RNode} (hN : (kids.map nodeSpan).Nodup) {onset : RTag} (hon : RNode.tag onset ∈ kids)
    (ha : anchorP env onset = true) {dt : RTag} {dspan : Nat × Nat} (hd : defItemsOf env kids = [(dt, dspan)]) :
    ∃ x, (dt, dspan) ∈ defItemsNode env x ∧
      kids.Perm (.tag onset :: x :: kids.filter fun c => nodeSpan c != dspan && nodeSpan c != onset.span) ∧
      ∀ c ∈ kids.filter (fun c => nodeSpan c != dspan && nodeSpan c != onset.span), defItemsNode env c = [] := by
  have hmem : (dt, dspan) ∈ defItemsOf env kids := by rw [hd]; exact List.mem_singleton.mpr rfl
  rw [defItemsOf_eq] at hmem hd
  obtain ⟨x, hx, hm⟩ := List.mem_flatMap.mp hmem
  have h1 : kids.Perm (.tag onset :: kids.filter fun c => nodeSpan c != onset.span) := perm_cons_filter_ne nodeSpan hN hon
  have hx1 : x ∈ kids.filter fun c => nodeSpan c != onset.span := by
    rcases List.mem_cons.mp (h1.mem_iff.mp hx) with rfl | h
    · exact absurd ((defItemsNode_mem hm).2 (anchorP env) fun _ => anchor_not_def) (by rw [tagIs_tag, ha]; decide)
    · exact h
  have h2 := perm_cons_filter_ne nodeSpan (hN.sublist (List.filter_sublist.map _)) hx1
  rw [List.filter_filter, (defItemsNode_mem hm).1] at h2
  have hp := h1.trans (h2.cons _)
  refine ⟨x, hm, hp, ?_⟩
  -- one item in all, and `x` holds one: nothing is left for the others
  have hlen := (hp.flatMap_right (defItemsNode env)).length_eq
  rw [hd, List.flatMap_cons, List.flatMap_cons, List.length_append, List.length_append] at hlen
  have hpos := List.length_pos_of_mem hm
  exact List.flatMap_eq_nil_iff.mp (List.length_eq_zero_iff.mp (by simp only [List.length_singleton] at hlen; omega))

/-- The number of issues of `validate_onset_offset` (hed/validator/def_validator.py) for a top-level group with `a`
Onset/Offset/Inset tags, `off` of them Offset, `d` Def items, `m` members that are not Delay tags, `tg` tags that are
neither Delay nor Def tags. The code's `children` (not the anchor, not the Def holder, no Delay tag) are `m - 2`, against
`max_children` (0 for Offset, else 1); `tg - 1` of them are tags, and with at most one child "the first child is a tag"
is that number. -/
def onsF (a off d m tg : Nat) : Nat :=
  if a = 0 then 0 else if d ≠ 1 then 1 else if 2 ≤ a then 1
  else if m - 2 > (if off = 1 then 0 else 1) then 1 else tg - 1

/-- with several anchors (`aA ≥ 1`) there is one issue whichever comes first: the others are tags among the children -/
theorem onsF_one_item {aA oA n len : Nat} {o : Bool} (h1 : oA ≤ aA) (h2 : aA ≤ n) (h3 : n ≤ len) :
    onsF (aA + 1) (oA + if o = true then 1 else 0) 1 (len + 1 + 1) (n + 1) =
      if len > (if o = true then 0 else 1) then 1 else n := by
  unfold onsF
  by_cases ha : 2 ≤ aA + 1
  · simp only [ha, ↓reduceIte, ne_eq, not_true_eq_false, Nat.add_eq_zero_iff, Nat.succ_ne_self, and_false]
    have hl : (if o = true then 0 else 1) ≤ 1 := by split <;> omega
    generalize (if o = true then 0 else 1) = lim at hl
    split <;> omega
  · have hoA : oA = 0 := by omega
    subst hoA
    cases o <;> simp only [ha, ↓reduceIte, ne_eq, not_true_eq_false, Nat.add_eq_zero_iff, Nat.succ_ne_self, and_false,
      Bool.false_eq_true, Nat.zero_add, Nat.add_sub_cancel] <;> rfl

/-- the last two tests of `onsetGroupIssues` -/
theorem children_codes {dt : RTag} {ch : List RNode} {lim : Nat} (hlim : lim ≤ 1) :
    errCodes (if ch.length > lim then [tagIssue .onsetWrongNumberGroups dt] else
      match ch with
      | .tag c :: _ => [tagIssue .onsetTagOutsideGroup c]
      | _ => []) = List.replicate (if ch.length > lim then 1 else ch.countP isTagNode) tcode := by
  by_cases hgt : ch.length > lim
  · rw [if_pos hgt, if_pos hgt]
    rfl
  · rw [if_neg hgt, if_neg hgt]
    match ch, hgt with
    | [], _ | [.tag _], _ | [.group _ _], _ => rfl
    | _ :: _ :: _, h => exact absurd h (by simp only [List.length_cons]; omega)

def onsetNum (env : Env) (kids : List RNode) : Nat :=
  onsF (kids.countP (tagIs (anchorP env)))
    (kids.countP (tagIs fun t => anchorP env t && shortBase env t == offsetKey))
    (defItemsOf env kids).length
    (kids.countP fun c => !tagIs (fun t => shortBase env t == delayKey) c)
    (kids.countP (tagIs fun t => shortBase env t != delayKey && shortBase env t != defKey))

theorem onsetGroup_codes {kids : List RNode} (hN : (kids.map nodeSpan).Nodup)
    (hdef : ∀ it ∈ defItemsOf env kids, onsetDefIssues env it.1 = []) {onset : RTag}
    (hfind : (directTags kids).find? (anchorP env) = some onset) :
    errCodes (onsetGroupIssues env onset kids) = List.replicate (onsetNum env kids) tcode := by
  have hon : RNode.tag onset ∈ kids := mem_directTags.mp (List.mem_of_find?_eq_some hfind)
  have ha : anchorP env onset = true := List.find?_some hfind
  have ha0 : kids.countP (tagIs (anchorP env)) ≠ 0 :=
    Nat.ne_of_gt (List.countP_pos_iff.mpr ⟨_, hon, ha⟩)
  unfold onsetGroupIssues onsetNum
  cases hd : defItemsOf env kids with
  | nil =>
    simp only [onsF, ha0, ↓reduceIte]
    rfl
  | cons it rest =>
    obtain ⟨dt, dspan⟩ := it
    cases rest with
    | cons _ _ =>
      simp only [onsF, ha0, ↓reduceIte]
      rfl
    | nil =>
      obtain ⟨x, hm, hp, hnone⟩ := anchored_perm hN hon ha hd
      have hx := (defItemsNode_mem hm).2
      have h0 : onsetDefIssues env dt = [] := hdef (dt, dspan) (by rw [hd]; exact List.mem_singleton.mpr rfl)
      simp only [h0, List.append_nil, List.length_singleton]
      generalize kids.filter (fun c => nodeSpan c != dspan && nodeSpan c != onset.span) = A at hp hnone
      rw [List.filter_congr (q := fun c => !tagIs (fun t => shortBase env t == delayKey) c)
        (fun c _ => by cases c <;> rfl)]
      generalize hch : A.filter (fun c => !tagIs (fun t => shortBase env t == delayKey) c) = ch
      -- the counts of `kids`, read off `hp`
      have ea := hp.countP_eq (tagIs (anchorP env))
      have eo := hp.countP_eq (tagIs fun t => anchorP env t && shortBase env t == offsetKey)
      have em := hp.countP_eq fun c => !tagIs (fun t => shortBase env t == delayKey) c
      have eg := hp.countP_eq (tagIs fun t => shortBase env t != delayKey && shortBase env t != defKey)
      have hog : (shortBase env onset != delayKey && shortBase env onset != defKey) = true := by
        rw [bne, bne, anchor_not_delay ha, anchor_not_def ha]
        rfl
      have hxn : tagIs (fun t => shortBase env t == delayKey) x = false :=
        hx _ fun t h => by rw [beq_iff_eq.mp h]; rfl
      have hxg : tagIs (fun t => shortBase env t != delayKey && shortBase env t != defKey) x = false :=
        hx _ fun t h => by simpa [bne] using (Bool.and_eq_true_iff.mp h).2
      simp only [List.countP_cons, tagIs_tag, ha, hog, anchor_not_delay ha, Bool.true_and, Bool.not_false, ↓reduceIte,
        hx _ fun _ => anchor_not_def, hx _ fun _ h => anchor_not_def (Bool.and_eq_true_iff.mp h).1, hxn, hxg,
        Bool.false_eq_true, Nat.add_zero] at ea eo em eg
      have e1 : A.countP (fun c => !tagIs (fun t => shortBase env t == delayKey) c) = ch.length := by
        rw [← hch, List.countP_eq_length_filter]
      have e2 : A.countP (tagIs fun t => shortBase env t != delayKey && shortBase env t != defKey) =
          ch.countP isTagNode := by
        rw [← hch, List.countP_filter]
        refine List.countP_congr fun c hc => ?_
        cases c with
        | tag t =>
          have : (shortBase env t == defKey) = false := by simpa [defItemsNode] using hnone _ hc
          simp [tagIs, isTagNode, bne, this]
        | group _ _ => simp [tagIs, isTagNode]
      have l1 : A.countP (tagIs (anchorP env)) ≤
          A.countP (tagIs fun t => shortBase env t != delayKey && shortBase env t != defKey) :=
        countP_tagIs_mono (fun t h => by rw [bne, bne, anchor_not_delay h, anchor_not_def h]; rfl) A
      have l2 : A.countP (tagIs fun t => anchorP env t && shortBase env t == offsetKey) ≤
          A.countP (tagIs (anchorP env)) :=
        countP_tagIs_mono (fun t h => (Bool.and_eq_true_iff.mp h).1) A
      rw [ea, eo, em, eg, e1, e2, onsF_one_item l2 (e2 ▸ l1) List.countP_le_length]
      exact children_codes (by split <;> omega)

theorem onsetIssues_eq (env : Env) (root : List RNode) :
    onsetIssues env root = root.flatMap (anchoredNode env temporalKeys fun g => onsetGroupIssues env g.1 g.2.2) :=
  topLevelAnchored_flatMap env temporalKeys _ root

theorem onsetNode_codes {s : Nat × Nat} {kids : List RNode} (hN : (kids.map nodeSpan).Nodup)
    (hdef : ∀ it ∈ defItemsOf env kids, onsetDefIssues env it.1 = []) :
    errCodes (anchoredNode env temporalKeys (fun g => onsetGroupIssues env g.1 g.2.2) (.group s kids)) =
      List.replicate (onsetNum env kids) tcode := by
  simp only [anchoredNode]
  cases hf : (directTags kids).find? _ with
  | none =>
    have h0 : kids.countP (tagIs (anchorP env)) = 0 := List.countP_eq_zero.mpr fun c hc h => by
      cases c with
      | tag t => exact List.find?_eq_none.mp hf t (mem_directTags.mpr hc) h
      | group _ _ => cases h
    simp only [onsetNum, onsF, h0, ↓reduceIte]
    rfl
  | some onset => exact onsetGroup_codes hN hdef hf

/-! #### the counts are those of any related group -/

theorem NodeSim.defItemsNode_length (hsb : ∀ t t', R t t' → shortBase env t = shortBase env t') {k k' : RNode}
    (h : NodeSim R k k') : (defItemsNode env k).length = (defItemsNode env k').length := by
  refine NodeSim.byCases (motive := fun k k' _ => (defItemsNode env k).length = (defItemsNode env k').length)
    (fun t t' htt => ?_) (fun _ _ _ _ hf => ?_) k k' h
  · simp only [defItemsNode, hsb t t' htt]
    split <;> rfl
  · simp only [defItemsNode, List.length_map]
    exact hf.directTags_count _ _ fun t t' htt => by rw [hsb t t' htt]

theorem onsetNum_sim (hR : ∀ t t', R t t' → Core t t') {kids kids' : List RNode} (h : ForestSim R kids kids') :
    onsetNum env kids = onsetNum env kids' := by
  have hsb : ∀ t t', R t t' → shortBase env t = shortBase env t' := fun t t' htt => (hR t t' htt).shortBase.symm
  have hd : (defItemsOf env kids).length = (defItemsOf env kids').length := by
    rw [defItemsOf_eq, defItemsOf_eq, List.length_flatMap, List.length_flatMap]
    exact (h.map_perm fun k k' hk => hk.defItemsNode_length hsb).sum_nat
  have hA : ∀ t t', R t t' → anchorP env t = anchorP env t' := fun t t' htt => by rw [anchorP, anchorP, hsb t t' htt]
  have hc : ∀ p : RTag → Bool, (∀ t t', R t t' → p t = p t') → kids.countP (tagIs p) = kids'.countP (tagIs p) :=
    fun p hp => h.countP_eq _ _ fun _ _ hk => hk.tagIs_eq hp
  have hm := h.countP_eq (fun c => !tagIs (fun t => shortBase env t == delayKey) c)
    (fun c => !tagIs (fun t => shortBase env t == delayKey) c)
    fun k k' hk => by rw [hk.tagIs_eq fun t t' htt => by rw [hsb t t' htt]]
  simp only [onsetNum]
  rw [hd, hm, hc (anchorP env) hA,
    hc (fun t => anchorP env t && shortBase env t == offsetKey) (fun t t' htt => by rw [hA t t' htt, hsb t t' htt]),
    hc (fun t => shortBase env t != delayKey && shortBase env t != defKey) (fun t t' htt => by rw [hsb t t' htt])]

/-- the Def and Def-expand tags the rule looks at are declared with the right arity (when they are not, the
definition check of the earlier phase has already reported an error and the rule is not reached) -/
def DefItemsOK (env : Env) (root : List RNode) : Prop :=
  ∀ s kids, RNode.group s kids ∈ root → ∀ it ∈ defItemsOf env kids, onsetDefIssues env it.1 = []

theorem starts_sublist : ∀ (kids : List RNode), (kids.map fun c => (nodeSpan c).1).Sublist (rstartsList kids)
  | [] => List.Sublist.slnil
  | .tag _ :: cs => List.Sublist.cons_cons _ (starts_sublist cs)
  | .group _ ks :: cs =>
    List.Sublist.cons_cons _ ((starts_sublist cs).trans (List.sublist_append_right (rstartsList ks) (rstartsList cs)))

theorem siblings_nodup {root : List RNode} (hn : (rstartsList root).Nodup) {s : Nat × Nat} {kids : List RNode}
    (hk : RNode.group s kids ∈ root) : (kids.map nodeSpan).Nodup := by
  rw [rstartsList_eq] at hn
  have h1 : (rstartsNode (.group s kids)).Nodup := (List.pairwise_flatMap.mp hn).1 _ hk
  have h2 : ((kids.map nodeSpan).map Prod.fst).Nodup := by
    rw [List.map_map]
    exact (List.nodup_cons.mp h1).2.sublist (starts_sublist kids)
  exact List.Pairwise.of_map Prod.fst (fun _ _ hne e => hne (congrArg Prod.fst e)) h2

/-- **the Onset/Offset/Inset rule does not depend on the order or the spelling of the members** -/
theorem onsetIssues_sim (hR : ∀ t t', R t t' → Core t t') {l l' : List RNode} (h : ForestSim R l l')
    (hn : (rstartsList l).Nodup) (hn' : (rstartsList l').Nodup) (hd : DefItemsOK env l) (hd' : DefItemsOK env l') :
    (errCodes (onsetIssues env l)).Perm (errCodes (onsetIssues env l')) := by
  rw [onsetIssues_eq, onsetIssues_eq, errCodes_flatMap, errCodes_flatMap]
  apply h.flatMap_perm
  intro k hk k' hk' hkk
  induction k, k', hkk using NodeSim.byCases with
  | tag => exact .refl _
  | group s s' ks ks' hf =>
    rw [onsetNode_codes (siblings_nodup hn hk) (hd s ks hk), onsetNode_codes (siblings_nodup hn' hk') (hd' s' ks' hk'),
      onsetNum_sim hR hf]

end onset

section crossphase
variable {env : Env}

/-- `get_definition` succeeds ⇒ the look-up of `_handle_onset_or_offset` does -/
theorem onsetDef_nil_of_ok {dt : RTag} {rest : List RNode} (h : defExpansion env dt = .ok rest) :
    onsetDefIssues env dt = [] := by
  unfold defExpansion at h
  unfold onsetDefIssues
  cases hl : defLookup env (defLabel dt) with
  | none => rw [hl] at h; cases h
  | some e =>
    rw [hl] at h
    simp only at h ⊢
    by_cases hm : (e.takes == (defValue dt).isEmpty) = true
    · rw [if_pos hm] at h
      cases h
    · rw [if_neg]
      revert hm
      cases e.takes <;> cases (defValue dt).isEmpty <;> decide

/-- the issues for a missing definition and for a value missing or not wanted are errors -/
theorem defExpansion_ok_of_content (dt : RTag) (grp : Option (List RNode))
    (h : ∀ i ∈ defContentIssues env dt grp, i.isError = false) : ∃ rest, defExpansion env dt = .ok rest := by
  unfold defContentIssues at h
  cases hx : defExpansion env dt with
  | ok rest => exact ⟨rest, rfl⟩
  | noEntry =>
    rw [hx] at h
    have := h _ (List.mem_singleton.mpr rfl)
    cases grp <;> cases this
  | mismatch takes =>
    rw [hx] at h
    have := h _ (List.mem_singleton.mpr rfl)
    cases grp <;> cases takes <;> cases this

theorem defItemsNode_issues {x : RNode} {it : RTag × (Nat × Nat)} (h : it ∈ defItemsNode env x) :
    ∃ grp, ∀ i ∈ defContentIssues env it.1 grp, i ∈ defItem env x := by
  cases x with
  | tag t =>
    simp only [defItemsNode, defItem] at h ⊢
    split at h
    · rename_i hd
      rw [List.mem_singleton] at h
      subst h
      rw [if_pos hd]
      exact ⟨none, fun _ hi => hi⟩
    · cases h
  | group s ks =>
    obtain ⟨t, ht, rfl⟩ := List.mem_map.mp h
    exact ⟨some ks, fun i hi => List.mem_flatMap.mpr ⟨t, ht, hi⟩⟩

/-- **Cross-phase.** When `validate_def_tags` reports no error, every Def item the temporal rule looks at passes the
rule's own look-up. -/
theorem defItemsOK_of_defPhase (len : Nat) (root : List RNode) (h : hasError (defPhase env len root) = false) :
    DefItemsOK env root := by
  intro s kids hk it hit
  rw [defItemsOf_eq] at hit
  obtain ⟨x, hx, hm⟩ := List.mem_flatMap.mp hit
  obtain ⟨grp, hgrp⟩ := defItemsNode_issues hm
  have hg : (⟨s, kids, true, true⟩ : GV) ∈ allGroups len root := by
    simp only [allGroups, List.mem_cons, groupsList_eq, List.mem_flatMap]
    exact Or.inr ⟨_, hk, by simp [groupsNode]⟩
  obtain ⟨_, hok⟩ := defExpansion_ok_of_content it.1 grp fun i hi => by
    have hi' : i ∈ defPhase env len root := by
      refine List.mem_flatMap.mpr ⟨_, hg, ?_⟩
      rw [defIssuesOf_eq]
      exact List.mem_flatMap.mpr ⟨x, hx, hgrp i hi⟩
    simpa using List.any_eq_false.mp h i hi'
  exact onsetDef_nil_of_ok hok

theorem defPhase_noError {env : Env} {ph : Bool} {text : Str} {p : Parsed}
    (h : hasError (basicP env ph text p) = false) (hna : isNA env p.root0 = false) :
    hasError (defPhase env text.length p.root1) = false := by
  unfold basicP at h
  simp only [hna, Bool.false_eq_true, ↓reduceIte] at h
  by_cases h1 : hasError (stringIssues env ph text p) = true
  · simp [h1] at h
  · simp only [h1, Bool.false_eq_true, ↓reduceIte] at h
    by_cases h2 : hasError (stringIssues env ph text p ++ tagIssues env ph p) = true
    · simp [h2] at h
    · simp only [h2, Bool.false_eq_true, ↓reduceIte] at h
      rw [C01.hasError_append, Bool.or_eq_false_iff] at h
      have := h.2
      unfold semIssues at this
      rw [C01.hasError_append, Bool.or_eq_false_iff] at this
      exact this.2

theorem defItemsOK_final {env : Env} {ph : Bool} {text : Str} {p : Parsed}
    (h : hasError (basicP env ph text p) = false) : DefItemsOK env (p.final env) := by
  unfold Parsed.final
  by_cases hna : isNA env p.root0 = true
  · simp only [hna, ↓reduceIte]
    obtain ⟨hlen, hany⟩ := (strList_na env p.root0).mp (beq_iff_eq.mp hna)
    obtain ⟨x, hx⟩ := List.length_eq_one_iff.mp hlen
    rw [hx] at hany ⊢
    cases x with
    | tag _ => exact fun s kids hk => nomatch List.mem_singleton.mp hk
    | group _ _ => cases hany
  · have hna' : isNA env p.root0 = false := by simpa using hna
    simp only [hna', Bool.false_eq_true, ↓reduceIte]
    exact defItemsOK_of_defPhase _ _ (defPhase_noError h hna')

end crossphase

section whole
open HedVerif.Dup (Adm)
variable {R : RTag → RTag → Prop} {env : Env}

theorem fullPhase_sim (hR : ∀ t t', R t t' → Core t t') (hs : env.var.sortCanonical = true)
    (he : env.var.eqFold = true) {P : Dup.Tag → Prop} (hP : Adm P)
    {l l' : List RNode} (h : ForestSim R l l') (len len' : Nat)
    (h1 : ∀ x ∈ tagsList l, P (toDupTag env x)) (h1' : ∀ x ∈ tagsList l', P (toDupTag env x))
    (hn : (rstartsList l).Nodup) (hn' : (rstartsList l').Nodup) (hd : DefItemsOK env l) (hd' : DefItemsOK env l') :
    (errCodes (fullPhase env len l)).Perm (errCodes (fullPhase env len' l')) := by
  unfold fullPhase
  simp only [errCodes_append]
  rw [requiredIssues_sim hR h, uniqueIssues_sim hR h, errCodes_flatMap, errCodes_flatMap,
    dupIssues_sim env hR hs he hP h (all_toDupL h1) (all_toDupL h1')]
  refine (((((List.Perm.refl _).append (List.Perm.refl _)).append ?_).append (List.Perm.refl _)).append
    (durationIssues_sim hR h)).append (onsetIssues_sim hR h hn hn' hd hd')
  exact h.allGroups_flatMap len len' (fun g _ g' _ hgg => groupIssues_sim hR hgg)

/-- **Whole validator, tree level.** Two parsed annotations whose first trees are related (same shape, related
tags, members of every group permuted, spans free but distinct) and whose raw-text rules agree get the same
multiset of error codes, for both values of `allow_placeholders`. `hs`, `he` fix the variant of the duplicate rule;
admissibility is asked of `root0` and `root1` because `Parsed.final` is one or the other. -/
theorem validateP_sim (hR : TagRel env R) (hs : env.var.sortCanonical = true) (he : env.var.eqFold = true)
    {P : Dup.Tag → Prop} (hP : Adm P) (hD : DefsOK env P) (ph : Bool) (text text' : Str) (p p' : Parsed)
    (hw : ParsedWF env p) (hw' : ParsedWF env p') (h0 : ForestSim R p.root0 p'.root0)
    (hText : (errCodes (textIssues env ph text)).Perm (errCodes (textIssues env ph text')))
    (hP0 : ∀ x ∈ tagsList p.root0, P (toDupTag env x)) (hP0' : ∀ x ∈ tagsList p'.root0, P (toDupTag env x))
    (hP1 : ∀ x ∈ tagsList p.root1, P (toDupTag env x)) (hP1' : ∀ x ∈ tagsList p'.root1, P (toDupTag env x))
    (hn : (rstartsList p.root0).Nodup) (hn' : (rstartsList p'.root0).Nodup) :
    (errCodes (validateP env ph text p)).Perm (errCodes (validateP env ph text' p')) := by
  have h1 : ForestSim R p.root1 p'.root1 := by rw [hw.1, hw'.1]; exact h0.recanon hR.recanon
  have hn1 : (rstartsList p.root1).Nodup := by rw [hw.1, rstarts_recanon]; exact hn
  have hn1' : (rstartsList p'.root1).Nodup := by rw [hw'.1, rstarts_recanon]; exact hn'
  have hna := isNA_sim (env := env) hR.core h0
  apply validateP_congr env ph text text' p p'
  · -- the raw string
    unfold stringIssues stringPhase
    have := hText
    simp only [textIssues, errCodes_append, errCodes_flatMap] at this ⊢
    exact this.append (h0.tags_flatMap fun t t' htt => .of_eq (hR.slash t t' htt))
  · exact hna
  · -- tag characters and look-up
    unfold tagIssues
    rw [hw.2, hw'.2, C01.recanonList_issues, C01.recanonList_issues]
    simp only [errCodes_append, errCodes_flatMap]
    exact (h0.tags_flatMap fun t t' htt => .of_eq (hR.chars t t' htt ph)).append
      (h0.tags_flatMap fun t t' htt => .of_eq (hR.lookup t t' htt))
  · -- individual tags and definitions
    unfold semIssues
    simp only [errCodes_append]
    exact (individualPhase_sim hR.core ph h1 _ _ hn1 hn1').append (defPhase_sim hR.core hs he hP hD h1 _ _ hP1 hP1')
  · -- full-string checks, run when nothing above is an error
    intro hb hb'
    have hd := defItemsOK_final hb
    have hd' := defItemsOK_final hb'
    unfold fullIssues
    unfold Parsed.final at hd hd' ⊢
    rw [← hna] at hd' ⊢
    generalize isNA env p.root0 = na at hd hd' ⊢
    cases na
    · exact fullPhase_sim hR.core hs he hP h1 _ _ hP1 hP1' hn1 hn1' hd hd'
    · exact fullPhase_sim hR.core hs he hP h0 _ _ hP0 hP0' hn hn' hd hd'

end whole


/-! ### the relations: same tag (order, spacing), respelled tag (spelling) -/

theorem SameTag.core {t t' : RTag} (h : SameTag t t') : Core t t' := ⟨h.2.1, h.2.2.1, h.2.2.2, fun _ => h.1⟩

theorem SameTag.orgBase {t t' : RTag} (h : SameTag t t') : orgBase t' = orgBase t := by
  simp [Validate.orgBase, h.1, h.2.2.1, h.2.2.2]

theorem canon_same (env : Env) {t t' : RTag} (h : SameTag t t') : SameTag (canon env t).1 (canon env t').1 := by
  obtain ⟨he, hx, _⟩ := canon_congr env h.2.1 h.core.strOf h.2.2.2
  obtain ⟨_, ho, hn, _⟩ := C01.canon_keeps env t
  obtain ⟨_, ho', hn', _⟩ := C01.canon_keeps env t'
  exact ⟨by rw [ho, ho', h.1], by rw [hn, hn', h.2.1], he, hx⟩

theorem sameTag_rel (env : Env) : TagRel env SameTag where
  core := fun _ _ h => h.core
  slash := fun t t' h => errCodes_of_sigs (by simp [slashIssues, h.1])
  chars := fun t t' h ph => errCodes_of_sigs (by
    unfold tagCharIssues
    simp only [h.2.1, h.orgBase, sigs_append, sigs_ite, sigs_cons, sigs_nil, sig_tagIssue,
      invalidCharsFrom_sigs env.cd _ t t' none (orgBase t) 0 0])
  recanon := fun _ _ h => canon_same env h
  lookup := fun _ _ h => (errCodes_of_sigs (canon_core_sigs env h.core)).symm


/-! ### from texts to trees: the abstract forest of a text decides its resolved tree, up to spans -/

mutual
/-- `NodeSim` on the abstract trees `ATree` of `Props/C02` -/
def ANodeSim (Rt : Str → Str → Prop) : ATree → ATree → Prop
  | .tag w, .tag w' => Rt w w'
  | .group ks, .group ks' => ∃ m, APointSim Rt ks m ∧ m.Perm ks'
  | .tag _, .group _ => False
  | .group _, .tag _ => False
def APointSim (Rt : Str → Str → Prop) : List ATree → List ATree → Prop
  | [], [] => True
  | k :: ks, k' :: ks' => ANodeSim Rt k k' ∧ APointSim Rt ks ks'
  | [], _ :: _ => False
  | _ :: _, [] => False
end

def AForestSim (Rt : Str → Str → Prop) (l l' : List ATree) : Prop := ∃ m, APointSim Rt l m ∧ m.Perm l'

theorem mkTag_eq (env : Env) (text : Str) (a b : Nat) : mkTag env text a b = mkTagW env (Tree.slice text a b) (a, b) := rfl

theorem resolveList_map (env : Env) (s : Str) (l : List Node) : resolveList env s l = l.map (resolveNode env s) := by
  induction l with
  | nil => rfl
  | cons k ks ih => simp [resolveList, ih]

theorem parse_wf (env : Env) (text : Str) : ParsedWF env (parse env text) := ⟨rfl, rfl⟩

section textsim
variable {Rt : Str → Str → Prop} {R : RTag → RTag → Prop} (env : Env)

mutual
theorem resolveNode_sim (hRt : ∀ w w' sp sp', Rt w w' → R (mkTagW env w sp) (mkTagW env w' sp')) (s s' : Str) :
    ∀ (n n' : Node), ANodeSim Rt (absNode s n) (absNode s' n') → NodeSim R (resolveNode env s n) (resolveNode env s' n')
  | .tag a b, .tag a' b', h => hRt _ _ (a, b) (a', b') h
  | .tag _ _, .group _ _ _, h => False.elim h
  | .group _ _ _, .tag _ _, h => False.elim h
  | .group _ _ ks, .group _ _ ks', h => by
    obtain ⟨mA, hm, hp⟩ := h
    rw [formList_eq_map] at hp
    obtain ⟨ks'', hk, rfl⟩ := perm_map_exists _ mA ks' hp
    refine ⟨resolveList env s' ks'', resolveList_sim hRt s s' ks ks'' (by rwa [← formList_eq_map] at hm), ?_⟩
    rw [resolveList_map, resolveList_map]
    exact hk.map _
theorem resolveList_sim (hRt : ∀ w w' sp sp', Rt w w' → R (mkTagW env w sp) (mkTagW env w' sp')) (s s' : Str) :
    ∀ (l m : List Node), APointSim Rt (absList s l) (absList s' m) →
      PointSim R (resolveList env s l) (resolveList env s' m)
  | [], [], _ => True.intro
  | k :: ks, k' :: ms, h => ⟨resolveNode_sim hRt s s' k k' h.1, resolveList_sim hRt s s' ks ms h.2⟩
  | [], _ :: _, h => False.elim h
  | _ :: _, [], h => False.elim h
end
theorem parse_sim (hRt : ∀ w w' sp sp', Rt w w' → R (mkTagW env w sp) (mkTagW env w' sp')) (s s' : Str)
    (h : AForestSim Rt (absList s (Tree.construct s)) (absList s' (Tree.construct s'))) :
    ForestSim R (parse env s).root0 (parse env s').root0 :=
  resolveNode_sim env hRt s s' (.group 0 0 (Tree.construct s)) (.group 0 0 (Tree.construct s')) h

end textsim

/-! ### blanks and the rules that read the raw text -/

section blanktext
variable (env : Env)

theorem badChar_blank (ph : Bool) : badChar env ph ' ' = false := by
  cases ph <;> simp [badChar, invalidStringCharsPlaceholders, invalidStringChars, isPrintable, isAscii]

theorem charIssuesFrom_codes (ph : Bool) : ∀ (s : Str) (i : Nat),
    errCodes (charIssuesFrom env ph i s) = s.flatMap fun c => if badChar env ph c then errCodes [charIssue 0 c] else []
  | [], _ => rfl
  | c :: cs, i => by
    simp only [charIssuesFrom, errCodes_append, List.flatMap_cons, charIssuesFrom_codes ph cs (i + 1)]
    congr 1
    split
    · exact errCodes_of_sigs (by simp [charIssue] <;> (split <;> rfl))
    · rfl

theorem charIssues_blank (ph : Bool) (a b : Str) :
    errCodes (charIssues env ph (a ++ ' ' :: b)) = errCodes (charIssues env ph (a ++ b)) := by
  simp [charIssues, charIssuesFrom_codes, List.flatMap_append, List.flatMap_cons, badChar_blank]

theorem parenIssues_blank (a b : Str) :
    errCodes (parenIssues (a ++ ' ' :: b)) = errCodes (parenIssues (a ++ b)) := by
  have hm : Paren.mismatch (a ++ ' ' :: b) = Paren.mismatch (a ++ b) := by
    rw [Bool.eq_iff_iff, C02.mismatch_reported, C02.mismatch_reported]
    simp [balanced, parens, List.filterMap_append, parenOf]
  unfold parenIssues
  rw [hm]
  split
  · exact errCodes_of_sigs (by simp)
  · rfl

/-- what the delimiter scan remembers, positions and texts aside (cf. `Dup.Scan.Rel` in `Order.lean`) -/
def DRel (cd : CharData) (a b : Validate.DSt) : Prop :=
  a.last = b.last ∧ sigs a.issues = sigs b.issues ∧ a.stop = b.stop ∧
    a.cur.all (isSpace cd) = b.cur.all (isSpace cd)

theorem strip_eq (cd : CharData) (s : Str) : Validate.strip cd s = Dup.Scan.strip (isSpace cd) s := rfl

theorem dstep_blank (cd : CharData) (a : Validate.DSt) (i : Nat) (c : Char) (hc : isSpace cd c = true) :
    DRel cd (dstep cd a i c) a := by
  obtain ⟨al, ai, ac, aI, as⟩ := a
  cases as <;> simp [dstep, DRel, hc]

/-- the scan branches on what both states remember alike -/
theorem DRel.ite {cd : CharData} {p q : Bool} (hpq : p = q) {x y x' y' : Validate.DSt} (h1 : p = true → DRel cd x x')
    (h2 : p = false → DRel cd y y') : DRel cd (if p then x else y) (if q then x' else y') := by
  subst hpq
  cases p
  · exact h2 rfl
  · exact h1 rfl

theorem dstep_rel (cd : CharData) (a b : Validate.DSt) (i j : Nat) (c : Char)
    (h : DRel cd a b) : DRel cd (dstep cd a i c) (dstep cd b j c) := by
  have hs : ∀ x y : Issue, sig x = sig y → sigs (a.issues ++ [x]) = sigs (b.issues ++ [y]) := fun x y e => by
    rw [sigs_append, sigs_append, h.2.1, sigs_cons, sigs_cons, e]
  have hcur : (a.cur ++ [c]).all (isSpace cd) = (b.cur ++ [c]).all (isSpace cd) := by
    rw [List.all_append, List.all_append, h.2.2.2]
  -- `(current_tag + c).strip() == c` asks whether `current_tag` is blank
  have hstrip : ∀ c', isSpace cd c' = false →
      (Validate.strip cd (a.cur ++ [c']) == [c']) = (Validate.strip cd (b.cur ++ [c']) == [c']) := fun c' hc' =>
    (Dup.Scan.strip_snoc (isSpace cd) c' hc' a.cur).trans
      (h.2.2.2.trans (Dup.Scan.strip_snoc (isSpace cd) c' hc' b.cur).symm)
  refine DRel.ite h.2.2.1 (fun _ => h) fun _ =>
    DRel.ite rfl (fun _ => ⟨h.1, h.2.1, h.2.2.1, hcur⟩) fun hc =>
    DRel.ite rfl (fun _ =>
      DRel.ite (hstrip c hc) (fun _ => ⟨h.1, hs _ _ rfl, h.2.2.1, rfl⟩) fun _ => ⟨rfl, h.2.1, h.2.2.1, rfl⟩) fun _ =>
    DRel.ite rfl (fun hop => ?_) fun _ => ?_
  · obtain rfl := beq_iff_eq.mp hop
    exact DRel.ite (hstrip '(' hc) (fun _ => ⟨rfl, h.2.1, h.2.2.1, rfl⟩) fun _ => ⟨rfl, hs _ _ rfl, h.2.2.1, hcur⟩
  · exact DRel.ite (by rw [h.1]) (fun _ => ⟨rfl, hs _ _ rfl, h.2.2.1, hcur⟩) fun _ =>
      DRel.ite (by rw [h.1]) (fun _ => ⟨h.1, hs _ _ rfl, rfl, hcur⟩) fun _ => ⟨rfl, h.2.1, h.2.2.1, hcur⟩

theorem drun_rel (cd : CharData) : ∀ (s : Str) (a b : Validate.DSt) (i j : Nat), DRel cd a b →
    DRel cd (drun cd a i s) (drun cd b j s)
  | [], _, _, _, _, h => h
  | c :: cs, a, b, i, j, h => drun_rel cd cs _ _ _ _ (dstep_rel cd a b i j c h)

theorem drun_append (cd : CharData) : ∀ (a b : Str) (st : Validate.DSt) (i : Nat),
    drun cd st i (a ++ b) = drun cd (drun cd st i a) (i + a.length) b
  | [], _, _, _ => by simp [drun]
  | c :: cs, b, st, i => by
    simp only [List.cons_append, drun, List.length_cons]
    rw [drun_append cd cs b _ (i + 1)]
    congr 1
    omega

theorem delimIssues_blank (cd : CharData) (a b : Str) :
    errCodes (delimIssues cd (a ++ ' ' :: b)) = errCodes (delimIssues cd (a ++ b)) := by
  have hsp : isSpace cd ' ' = true := by simp [isSpace, isAscii]
  have hrel : DRel cd (drun cd {} 0 (a ++ ' ' :: b)) (drun cd {} 0 (a ++ b)) := by
    rw [drun_append, drun_append]
    simp only [drun]
    apply drun_rel
    exact dstep_blank cd _ _ ' ' hsp
  obtain ⟨h1, h2, _, _⟩ := hrel
  unfold delimIssues
  simp only
  apply errCodes_of_sigs
  rw [sigs_append, sigs_append, h2, h1]
  congr 1
  split <;> rfl

/-- **raw-text rules and blanks**: inserting a blank anywhere changes none of their codes -/
theorem textIssues_blank (ph : Bool) (a b : Str) :
    errCodes (textIssues env ph (a ++ ' ' :: b)) = errCodes (textIssues env ph (a ++ b)) := by
  simp only [textIssues, errCodes_append, charIssues_blank, parenIssues_blank, delimIssues_blank]

end blanktext

end HedVerif.Rewrite
