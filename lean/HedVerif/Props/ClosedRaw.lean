/-
Raw closed mode of C07 (`Tabular.validateClosedRaw`, lean/HedVerif/Model/ClosedRaw.lean): the composition
assembly (C06) → file layer (C07) → string validator (C01), as a function of sidecar + events table.
`total`, `labels`, `cell_issue` and `cell_errors_kept` of `Props/Closed.lean` restated on raw input, and the facts of `Props/C06.lean` about assembly lifted to
the rows the file layer sees.
-/
import HedVerif.Model.ClosedRaw
import HedVerif.Props.Closed
import HedVerif.Props.C06

namespace HedVerif.Raw
open HedVerif HedVerif.Assemble

theorem transformed_names (cols : List Col) (header r : List Str) :
    (transformed cols header r).map (·.1) = cols.map (·.name) := by
  simp [transformed, Function.comp_def]

theorem liveRefs_names (refs : List Str) (tr tr' : List (Str × Str)) (h : tr.map (·.1) = tr'.map (·.1)) :
    liveRefs refs tr = liveRefs refs tr' := by
  unfold liveRefs
  apply List.filter_congr
  intro r _
  have : ∀ l : List (Str × Str), (l.any fun p => p.1 == r) = (l.map (·.1)).any (· == r) := by
    intro l; simp [List.any_map, Function.comp_def]
  rw [this tr, this tr', h]

theorem aRow_names (sc : Sidecar) (header r : List Str) : (aRow sc header r).map (·.1) = aColumns sc header := by
  unfold aColumns aRow
  rw [(C06.splice _ _).1, (C06.splice _ _).1, transformed_names, transformed_names,
    liveRefs_names _ (transformed (activeCols sc header) header r) (transformed (activeCols sc header) header [])
      (by rw [transformed_names, transformed_names])]

theorem liveFrom_texts : ∀ (cols cells : List Str) (i : Nat), cols.length = cells.length →
    (Tabular.liveFrom i cols cells).map (·.2.2) = cells.filter fun x => !Tabular.isSkip x
  | [], [], _, _ => rfl
  | [], _ :: _, _, h => by simp at h
  | _ :: _, [], _, h => by simp at h
  | c :: cs, x :: xs, i, h => by
    have ih := liveFrom_texts cs xs (i + 1) (by simpa using h)
    unfold Tabular.liveFrom
    cases hx : Tabular.isSkip x <;> simp [hx, ih]

theorem keep_eq : keep = fun x => !Tabular.isSkip x := by
  funext x
  simp [keep, Tabular.isSkip, Tabular.na, NA, bne]

theorem joinWith_intercalate (sep : Str) : ∀ l : List Str, Tabular.joinWith sep l = sep.intercalate l
  | [] => rfl
  | [x] => by simp [Tabular.joinWith, List.intercalate]
  | x :: y :: r => by
    have ih := joinWith_intercalate sep (y :: r)
    simp only [Tabular.joinWith, ih, List.intercalate, List.intersperse, List.flatten_cons, List.append_assoc]

end HedVerif.Raw

namespace HedVerif.C07
open HedVerif HedVerif.Tabular HedVerif.Closed HedVerif.Assemble HedVerif.Raw

/-- `raw_is_composition`: validating a (sidecar, table) pair is: assemble with the C06 model, configure the file layer
from the sidecar and the header, validate the assembled frame with the closed file model. -/
theorem raw_is_composition (env : Validate.Env) (k : Consts) (sc : Sidecar) (t : Table) :
    validateClosedRaw env k sc t = validateClosed env k.kBanned (rawCfg k sc t) (t.rows.map (rawRow sc t.header)) := rfl

/-- `raw_rows_order`: assembly keeps the number and the order of the rows: row `i` of the frame the file layer validates
is the assembly of row `i` of the table, its cells are the assembled columns (C06 `assembled`), named alike in every row,
and there are as many as the C06 series has entries. -/
theorem raw_rows_order (sc : Sidecar) (t : Table) :
    (rawRows sc t).length = t.rows.length ∧ (rawRows sc t).length = (series sc t).length ∧
    (∀ i : Nat, (rawRows sc t)[i]? = (t.rows[i]?).map (rawRow sc t.header)) ∧
    (∀ r, ((rawRow sc t.header r).cells = (aRow sc t.header r).map (·.2)) ∧
          (aRow sc t.header r).map (·.1) = aColumns sc t.header) := by
  refine ⟨by simp [rawRows], by simp [rawRows, (C06.length_order sc t).1], fun i => by simp [rawRows], fun r => ⟨rfl, aRow_names _ _ _⟩⟩

/-- `raw_series_is_assembly`: the text the file layer forms for a row (`combine_dataframe`: the `", "`-join of its
non-empty, non-`n/a` cells; the input of the time-point pass) is the C06 model's annotation of that table row, so the
list of these texts is `Assemble.series` (`list(TabularInput(table, sidecar).series_a)`). -/
theorem raw_series_is_assembly (k : Consts) (sc : Sidecar) (t : Table) :
    (∀ r, seriesText (rawCfg k sc t) (rawRow sc t.header r) = Assemble.row (refsOf sc) sc t.header r) ∧
    (rawRows sc t).map (seriesText (rawCfg k sc t)) = series sc t := by
  have h1 : ∀ r, seriesText (rawCfg k sc t) (rawRow sc t.header r) = Assemble.row (refsOf sc) sc t.header r := by
    intro r
    have hlen : (aColumns sc t.header).length = ((aRow sc t.header r).map (·.2)).length := by
      rw [← aRow_names sc t.header r, List.length_map, List.length_map]
    show joinWith [',', ' '] ((liveFrom 0 (aColumns sc t.header) ((aRow sc t.header r).map (·.2))).map (·.2.2)) = _
    rw [liveFrom_texts _ _ 0 hlen, joinWith_intercalate, ← keep_eq]
    rfl
  refine ⟨h1, ?_⟩
  rw [rawRows, List.map_map, series, seriesWith,
    show seriesText (rawCfg k sc t) ∘ rawRow sc t.header = Assemble.row (refsOf sc) sc t.header from funext h1]

/-- `total_closed_raw`: with the two flags set (hed-python as committed) any sidecar + table gets a list of issues. -/
theorem total_closed_raw (env : Validate.Env) (k : Consts) (sc : Sidecar) (t : Table) (hm : k.maskByRow = true)
    (hg : k.guardDelay = true) : ∃ out, validateClosedRaw env k sc t = .ok out :=
  total_closed env k.kBanned (rawCfg k sc t) (rawRows sc t) hm hg

theorem labels_closed_raw (env : Validate.Env) (k : Consts) (sc : Sidecar) (t : Table) (out : List Issue)
    (h : validateClosedRaw env k sc t = .ok out) :
    ∀ i ∈ out, WellLabelled (closeCfg env k.kBanned (rawCfg k sc t)) (rawRows sc t) i :=
  labels_closed env k.kBanned (rawCfg k sc t) (rawRows sc t) out h

/-- `cell_issue_closed_raw`: an issue attributed to a cell names a row of the TABLE (`ec_row` = its 0-based position + 2)
and a column of the assembled frame, and is an issue `Validate.basic` finds in the text assembled (handlers applied,
references spliced) for that column from that table row. -/
theorem cell_issue_closed_raw (env : Validate.Env) (k : Consts) (sc : Sidecar) (t : Table) (out : List Issue)
    (h : validateClosedRaw env k sc t = .ok out) (i : Issue) (hi : i ∈ out) (p c : Nat) (hs : i.src = .cell p c) :
    ∃ n r name vi, t.rows[n]? = some r ∧ (aRow sc t.header r)[c]? = some (name, i.text) ∧
      vi ∈ Validate.basic env false i.text ∧ i.kind = vi.code ++ [':'] ++ vi.kind.name ∧ i.sev = vi.sev ∧
      i.row = some (n + 2) ∧ i.col = some name := by
  obtain ⟨n, R, name, vi, h1, h2, h3, h4, h5, h6, h7, h8⟩ :=
    cell_issue_closed env k.kBanned (rawCfg k sc t) (rawRows sc t) out h i hi p c hs
  rw [(raw_rows_order sc t).2.2.1 n] at h1
  obtain ⟨r, hr, rfl⟩ := Option.map_eq_some_iff.mp h1
  refine ⟨n, r, name, vi, hr, ?_, h4, h5, h6, h7, h8⟩
  have hn : ((aRow sc t.header r).map (·.1))[c]? = some name := by rw [aRow_names]; exact h2
  have hv : ((aRow sc t.header r).map (·.2))[c]? = some i.text := h3
  rw [List.getElem?_map] at hn hv
  obtain ⟨x, hx, hx1⟩ := Option.map_eq_some_iff.mp hn
  rw [hx, Option.map_some, Option.some.injEq] at hv
  rw [hx, ← hx1, ← hv]

/-- `cell_errors_kept_closed_raw`: every issue `Validate.basic` finds in an assembled, looked-at cell is reported with the
table row and the assembled column. -/
theorem cell_errors_kept_closed_raw (env : Validate.Env) (k : Consts) (sc : Sidecar) (t : Table) (out : List Issue)
    (h : validateClosedRaw env k sc t = .ok out) (n : Nat) (r : List Str) (hr : t.rows[n]? = some r) (c : Nat) (name x : Str)
    (hc : (c, name, x) ∈ live (rawCfg k sc t) (rawRow sc t.header r)) (vi : Validate.Issue)
    (hv : vi ∈ Validate.basic env false x) :
    ∃ i ∈ out, i.kind = vi.code ++ [':'] ++ vi.kind.name ∧ i.sev = vi.sev ∧ i.row = some (n + 2) ∧
      i.col = some name ∧ i.text = x :=
  cell_errors_kept_closed env k.kBanned (rawCfg k sc t) (rawRows sc t) out h n _
    (by rw [(raw_rows_order sc t).2.2.1 n, hr]; rfl) c name x hc vi hv

/-! #### a concrete sidecar + table through the raw pipeline (tiny schema of `Props/C01.lean`) -/

def rawConsts : Consts :=
  { maskByRow := true, guardDelay := true, kKey := ⟨['K'], 10⟩, kRef := ⟨['F'], 1⟩, kUnordered := ⟨['U'], 10⟩,
    kUnknownCol := ⟨['C'], 10⟩, kBanned := ⟨['B'], 1⟩, kTemporal := fun _ => ⟨['T'], 1⟩ }

/-- `{"b": {"HED": {"k1": "Red,{v}", "k2": "Zz,({v})"}}, "v": {"HED": "Label/#"}}` -/
def rawSidecar : Sidecar :=
  [(['b'], .obj [(HEDNAME, .obj [(['k','1'], .str ['R','e','d',',','{','v','}']),
                                (['k','2'], .str ['Z','z',',','(','{','v','}',')'])])]),
   (['v'], .obj [(HEDNAME, .str ['L','a','b','e','l','/','#'])])]

/-- columns `v | t | b`, rows `ab | 1 | k1`, `n/a | 2 | k2`, `ab | 3 | zz` -/
def rawTable : Table :=
  ⟨[['v'], ['t'], ['b']],
   [[['a','b'], ['1'], ['k','1']], [['n','/','a'], ['2'], ['k','2']], [['a','b'], ['3'], ['z','z']]]⟩

/-- the assembled frame has the single column `b` (column `v` is referenced, `t` has no sidecar entry): the value
template is spliced into the category entry, and removed with its parentheses and comma where the value cell is `n/a` -/
example : (rawRows rawSidecar rawTable).map (·.cells) =
    [[['R','e','d',',','L','a','b','e','l','/','a','b']], [['Z','z']], [[]]] ∧
    aColumns rawSidecar rawTable.header = [['b']] := by decide +kernel

/-- `pipeline_example_closed_raw`: the unknown column `t` is warned about; row 2 (`Red,Label/ab`) is clean; row 3 assembles
to `Zz`, an unknown tag in column `b`; row 4 holds the unknown key `zz`. -/
theorem pipeline_example_closed_raw :
    (validateClosedRaw C01.Tiny.env rawConsts rawSidecar rawTable).toOption =
    some [⟨['C'], 10, none, none, [], .mapping⟩,
          ⟨kindOf .noValidTag, 1, some 3, some ['b'], ['Z','z'], .cell 1 0⟩,
          ⟨['K'], 10, some 4, some ['b'], [], .key 2 0⟩] := by
  decide +kernel

/-! #### Delay through the raw pipeline (schema of `C07.DelayDemo`) -/

def delayConsts : Consts := { rawConsts with kTemporal := DelayDemo.kT }

/-- `{"e": {"HED": {"go": "(Delay/1 s, Def/A, Onset)", "in": "(Def/A, Inset)"}}}` -/
def delaySidecar : Sidecar :=
  [(['e'], .obj [(HEDNAME, .obj [(['g','o'], .str DelayDemo.delayedOnset), (['i','n'], .str DelayDemo.inset)])])]

/-- columns `onset | e`, rows `1.0 | go`, `1.5 | in`, `3.0 | in` -/
def delayTable : Table :=
  ⟨[onsetName, ['e']], [[['1','.','0'], ['g','o']], [['1','.','5'], ['i','n']], [['3','.','0'], ['i','n']]]⟩

/-- `delay_pipeline_example_closed_raw`: from the sidecar and the raw table alone: the category entry of the first row
holds a Delay-shifted Onset (lands at 2.0 s), so the Inset of the row at 1.5 s is reported (file row 3) and the Inset of
the row at 3.0 s is in scope. -/
theorem delay_pipeline_example_closed_raw :
    (validateClosedRaw DelayDemo.env delayConsts delaySidecar delayTable).toOption =
      some [⟨['I'], 1, some 3, none, DelayDemo.inset, .temporal 1⟩] := by
  decide +kernel

/-! #### sidecars that declare definitions (`validateClosedRawD`) -/

/-- `raw_defs_is_composition`: with a sidecar that may declare definitions the raw pipeline is the raw pipeline in the
environment whose dictionary is the sidecar's extracted definitions followed by the external ones. -/
theorem raw_defs_is_composition (env : Validate.Env) (k : Consts) (sc : Sidecar) (t : Table) :
    validateClosedRawD env k sc t =
      validateClosed (Closed.envWith env (sidecarDict env sc)) k.kBanned (rawCfg k sc t) (rawRows sc t) := rfl

theorem total_closed_rawD (env : Validate.Env) (k : Consts) (sc : Sidecar) (t : Table) (hm : k.maskByRow = true)
    (hg : k.guardDelay = true) : ∃ out, validateClosedRawD env k sc t = .ok out :=
  total_closed_raw (envD env sc) k sc t hm hg

/-- `cell_issue_closed_rawD`: cell issues are `Validate.basic` issues of the assembled text in the enlarged dictionary. -/
theorem cell_issue_closed_rawD (env : Validate.Env) (k : Consts) (sc : Sidecar) (t : Table) (out : List Issue)
    (h : validateClosedRawD env k sc t = .ok out) (i : Issue) (hi : i ∈ out) (p c : Nat) (hs : i.src = .cell p c) :
    ∃ n r name vi, t.rows[n]? = some r ∧ (aRow sc t.header r)[c]? = some (name, i.text) ∧
      vi ∈ Validate.basic (envD env sc) false i.text ∧ i.kind = vi.code ++ [':'] ++ vi.kind.name ∧ i.sev = vi.sev ∧
      i.row = some (n + 2) ∧ i.col = some name :=
  cell_issue_closed_raw (envD env sc) k sc t out h i hi p c hs

/-- `{"d": {"HED": {"d1": "(Definition/Mk/#, (Label/#))"}}, "e": {"HED": {"go": "Def/Mk/ab", "no": "Def/Mk"}}}` -/
def defSidecar : Sidecar :=
  [(['d'], .obj [(HEDNAME, .obj [(['d','1'], .str ['(','D','e','f','i','n','i','t','i','o','n','/','M','k','/','#',',',' ','(','L','a','b','e','l','/','#',')',')'])])]),
   (['e'], .obj [(HEDNAME, .obj [(['g','o'], .str ['D','e','f','/','M','k','/','a','b']), (['n','o'], .str ['D','e','f','/','M','k'])])])]

/-- columns `e | HED`, rows `go | Def/Mk/x`, `no | Red`, `go | Def/Zz` -/
def defTable : Table :=
  ⟨[['e'], HEDNAME], [[['g','o'], ['D','e','f','/','M','k','/','x']], [['n','o'], ['R','e','d']], [['g','o'], ['D','e','f','/','Z','z']]]⟩

/-- `defs_pipeline_example_closed_raw`: the definition `Mk/#` is declared only in the sidecar (column `d`, not a column of
the file).  Row 2 uses it rightly in both columns; row 3 assembles `Def/Mk` (value missing) in column `e`; row 4 uses the
undeclared `Def/Zz` in the HED column. -/
theorem defs_pipeline_example_closed_raw :
    (validateClosedRawD C01.Tiny.env rawConsts defSidecar defTable).toOption =
      some [⟨kindOf .defValueMissing, 1, some 3, some ['e'], ['D','e','f','/','M','k'], .cell 1 1⟩,
            ⟨kindOf .defUnmatched, 1, some 4, some HEDNAME, ['D','e','f','/','Z','z'], .cell 2 0⟩] := by
  decide +kernel

end HedVerif.C07
