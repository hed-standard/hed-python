/-
Python compares `str` values by code point, lexicographically.  Each model spells that order out as its own recursive
`strLt` / `strLe`; all are core Lean's order on `List Char` (bridge: one induction per copy, with `toNat_lt_iff`), or,
spelt `x < y || (x == y && …)` over any element type, core's Boolean `List.lex` (irreflexivity and asymmetry carried
over below; transitivity is not).  `lexIf_iff` is the step of a comparison spelt with `if` on numbers.
-/
namespace HedVerif

theorem toNat_lt_iff (a b : Char) : a.toNat < b.toNat ↔ a < b :=
  (Char.lt_def.trans UInt32.lt_iff_toNat_lt).symm

theorem lex_irrefl_bool {α} [BEq α] [LawfulBEq α] (lt : α → α → Bool) (h : ∀ x, lt x x = false) (l : List α) :
    l.lex l lt = false :=
  (List.lex_eq_false_iff_not_lex lt).mpr (List.lex_irrefl (fun x hx => Bool.false_ne_true ((h x).symm.trans hx)) l)

theorem lex_asymm_bool {α} [BEq α] [LawfulBEq α] (lt : α → α → Bool) (h : ∀ x y, lt x y = true → lt y x = false)
    {a b : List α} (hab : a.lex b lt = true) : b.lex a lt = false :=
  (List.lex_eq_false_iff_not_lex lt).mpr
    (List.lex_asymm (fun hxy hyx => Bool.false_ne_true ((h _ _ hxy).symm.trans hyx)) ((List.lex_eq_true_iff_lex lt).mp hab))

theorem lexIf_iff (m n : Nat) (r : Bool) :
    (if m < n then true else if n < m then false else r) = true ↔ m < n ∨ m = n ∧ r = true := by
  split
  · exact iff_of_true rfl (Or.inl ‹_›)
  · split
    · exact iff_of_false Bool.false_ne_true (by omega)
    · exact ⟨fun h => Or.inr ⟨by omega, h⟩, fun h => h.elim (by omega) (·.2)⟩

end HedVerif
