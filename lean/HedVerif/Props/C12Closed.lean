/-
C12 over the composed models: the string validator (`Validate`, C01), the file layer with the string validator
inside (`Tabular.validateClosed`) and the sidecar layer (`SidecarV.validateClosed`).
  * errors-only output = the error-severity subset of the warnings-on output, at the three levels, with the
    control-flow gates that look at issue lists made explicit (`Model/IssueFlow.lean`);
  * character offsets of the issues of `Validate.validate` lie inside the tag's span and the text and select the
    quoted fragment; the registered finding C12-def-value-char-index is the excluded case.
"Error" is `sev < 10` in the composed models and `severity ≤ 1` in `Model/Issue.lean`; the code assigns only 1 and 10.
-/
import HedVerif.Model.IssueFlow
import HedVerif.Props.C01
import HedVerif.Props.C12

namespace HedVerif.Flow
open HedVerif HedVerif.Validate

theorem hasError_errors (l : List Validate.Issue) : hasError (errors l) = hasError l :=
  Issue.any_filter_self Validate.Issue.isError l

theorem errors_idem (l : List Validate.Issue) : errors (errors l) = errors l := by simp [errors]

theorem errors_app (a b : List Validate.Issue) : errors (a ++ b) = errors a ++ errors b := by simp [errors]

end HedVerif.Flow

namespace HedVerif.C12
open HedVerif HedVerif.Validate HedVerif.Flow

/-- with warnings kept the C12-layer function is the C01 model of `HedValidator.validate` -/
theorem validateW_true (env : Env) (ph : Bool) (text : Str) : validateW true env ph text = validate env ph text := rfl

/-- **All gates look at errors only.** Every control-flow decision on an issue list in the three entry points is
`check_for_any_errors` (`hasError` / `anyError`), and its value is the same on a list and on its error subset. -/
theorem gates_see_errors_only :
    (∀ l : List Validate.Issue, hasError (errors l) = hasError l) ∧
    (∀ l : List Tabular.RIssue, Tabular.anyError (l.filter Tabular.RIssue.isError) = Tabular.anyError l) ∧
    (∀ l : List SidecarV.Issue, SidecarV.anyError (l.filter SidecarV.Issue.isError) = SidecarV.anyError l) :=
  ⟨hasError_errors, Issue.any_filter_self _, Issue.any_filter_self _⟩

/-- **Errors only = the error subset (string level).** `HedValidator.validate` under
`ErrorHandler(check_for_warnings=False)` returns exactly the error-severity issues, in order, of the run with warnings on.  (G1, G2 act on unfiltered lists inside
`run_basic_checks`; G3 acts on the filtered list.) -/
theorem validate_filter (env : Env) (ph : Bool) (text : Str) :
    validateW false env ph text = errors (validateW true env ph text) := by
  simp only [validateW, validateWP, keepV, Bool.false_eq_true, ↓reduceIte, hasError_errors]
  split
  · rfl
  · rw [errors_app, errors_idem, errors_app]

/-- **Offsets of the composed validator.** An issue of `validate` that names a tag (span `(s, e)`) and carries an index pair `(a, b)` gets
`char_index = s + a`, `char_index_end = s + b` with `s ≤ char_index ≤ char_index_end ≤ e ≤ |text|`, and the
fragment quoted in its message, `tag[a:b]` with `tag = text[s:e]`, is `text[char_index : char_index_end]`.
Hypotheses as in `C01.issue_indices_in_tag`; `hd` excludes the finding C12-def-value-char-index
(`offsets_def_value_counterexample`). -/
theorem offsets_closed (env : Env) (ph : Bool) (text : Str) (hst : C01.LookupStable env text)
    (hd : env.var.defCharRelocate = true ∨ env.defs = []) (i : Validate.Issue) (hi : i ∈ validate env ph text)
    (s e a b : Nat) (hspan : i.span = some (s, e)) (hsub : i.sub = some (a, b)) :
    (Issue.updateCharPos true (toIssue i)).charIdx = some (s + a, s + b) ∧
    s ≤ s + a ∧ s + a ≤ s + b ∧ s + b ≤ e ∧ e ≤ text.length ∧
    Tree.slice (Tree.slice text s e) a b = Tree.slice text (s + a) (s + b) := by
  obtain ⟨hab, hbe, hse, hen⟩ := C01.issue_indices_in_tag env ph text hst hd i hi s e a b hspan hsub
  refine ⟨?_, by omega, by omega, by omega, hen, fragment_is_text_slice text s e a b hbe⟩
  rw [Issue.updateCharPos_charIdx (toIssue i) s e hspan]
  simp only [toIssue, hsub]
  rfl

/-- an issue naming a tag or group without an index pair points at the whole span.
PARTIAL: `s ≤ e ≤ |text|` for such issues is a premise here (C01 proves it for the issues with an index pair only;
missing: well-formedness of every rule's `source_tag` span, which follows from C02's tiling but is not lifted). -/
theorem offsets_closed_span_partial (text : Str) (i : Validate.Issue) (s e : Nat) (hspan : i.span = some (s, e))
    (hsub : i.sub = none) (hse : s ≤ e) (hen : e ≤ text.length) :
    (Issue.updateCharPos true (toIssue i)).charIdx = some (s, e) ∧ s ≤ e ∧ e ≤ text.length := by
  refine ⟨?_, hse, hen⟩
  rw [Issue.updateCharPos_charIdx (toIssue i) s e hspan]
  simp only [toIssue, hsub]
  rfl

/-- `char_index_end` lies beyond the end of the tag the issue names -/
def outOfSpan (j : Issue.Issue) : Bool :=
  match j.span, j.charIdx with
  | some (_, e), some (_, b) => decide (e < b)
  | _, _ => false

/-- **The excluded case is real** (finding C12-def-value-char-index, unchanged code): with the definition
`P/#` ↦ `(Label/aaaa#)`, the character error of `Def/P/x$` gets a `char_index_end` beyond the end of the tag it
names; with `_relocate_errors` (fixes/C01_def_value_char_index.diff) it does not. -/
theorem offsets_def_value_counterexample :
    (located true C01.Tiny.envD false ['D','e','f','/','P','/','x','$']).any outOfSpan = true ∧
    (located true C01.Tiny.envDfixed false ['D','e','f','/','P','/','x','$']).any outOfSpan = false := by
  decide +kernel

/-- `offsets_closed` is not vacuous: an issue with span and index pair on a text satisfying the hypotheses -/
example : (validate C01.Tiny.env false ['I','t','e','m','/','X','y','$']).any
    (fun i => i.span.isSome && i.sub.isSome) = true := by decide +kernel
example : C01.LookupStable C01.Tiny.env ['I','t','e','m','/','X','y','$'] := by unfold C01.LookupStable; decide +kernel

/-- `validate_filter` is not vacuous: a string with a warning and an error -/
example : (validateW true C01.Tiny.env false ['I','t','e','m','/','X','y',',','R','e','d',',','R','e','d']).length = 2 ∧
    (validateW false C01.Tiny.env false ['I','t','e','m','/','X','y',',','R','e','d',',','R','e','d']).length = 1 := by
  decide +kernel

end HedVerif.C12

namespace HedVerif.Flow.Tab
open HedVerif.Tabular

/-! `Tabular.sortIssues` (C07's model of `sort_issues`) commutes with a filter: needed by `assembleW_false` only. -/

/-- `strLe` is core's order on `List Char` (code points, lexicographic) -/
theorem strLe_iff : ∀ a b : Str, strLe a b = true ↔ a ≤ b
  | [], b => iff_of_true rfl (List.nil_le b)
  | _ :: _, [] => iff_of_false Bool.false_ne_true (List.not_le.mpr (List.nil_lt_cons ..))
  | a :: as, b :: bs => by
    rw [List.cons_le_cons_iff, ← strLe_iff as bs, ← toNat_lt_iff, ← Char.toNat_inj]
    exact lexIf_iff ..

/-- `sort_issues` orders by row number, then column name -/
theorem issueLe_iff (a b : Tabular.Issue) : issueLe a b = true ↔
    (a.row.map (· + 1)).getD 0 < (b.row.map (· + 1)).getD 0 ∨
      (a.row.map (· + 1)).getD 0 = (b.row.map (· + 1)).getD 0 ∧ a.col.getD [] ≤ b.col.getD [] := by
  rw [← strLe_iff]
  exact lexIf_iff ..

theorem issueLe_total (a b : Tabular.Issue) : issueLe a b = true ∨ issueLe b a = true := by
  rw [issueLe_iff, issueLe_iff]
  rcases Nat.lt_trichotomy ((a.row.map (· + 1)).getD 0) ((b.row.map (· + 1)).getD 0) with h | h | h
  · exact Or.inl (Or.inl h)
  · exact (List.le_total (a.col.getD []) (b.col.getD [])).imp (Or.inr ⟨h, ·⟩) (Or.inr ⟨h.symm, ·⟩)
  · exact Or.inr (Or.inl h)

theorem issueLe_trans (a b c : Tabular.Issue) (h1 : issueLe a b = true) (h2 : issueLe b c = true) :
    issueLe a c = true := by
  rw [issueLe_iff] at h1 h2 ⊢
  rcases h1 with h1 | ⟨e1, h1⟩
  · exact Or.inl (h2.elim (Nat.lt_trans h1) fun h => h.1 ▸ h1)
  · rw [e1]
    exact h2.imp_right fun h => ⟨h.1, List.le_trans h1 h.2⟩

abbrev SortedI (l : List Tabular.Issue) : Prop := l.Pairwise fun a b => issueLe a b = true

theorem insertI_cons (x y : Tabular.Issue) (ys : List Tabular.Issue) :
    insertI x (y :: ys) = if issueLe x y then x :: y :: ys else y :: insertI x ys := rfl

theorem mem_insertI (x z : Tabular.Issue) : ∀ l : List Tabular.Issue, z ∈ insertI x l ↔ z = x ∨ z ∈ l
  | [] => List.mem_cons
  | y :: ys => by
    rw [insertI_cons]
    split
    · exact List.mem_cons
    · rw [List.mem_cons, mem_insertI x z ys, List.mem_cons]
      exact or_left_comm

theorem le_all_of_le_head {x y : Tabular.Issue} {ys : List Tabular.Issue} (h : SortedI (y :: ys))
    (hxy : issueLe x y = true) : ∀ z ∈ y :: ys, issueLe x z = true := fun z hz =>
  (List.mem_cons.mp hz).elim (· ▸ hxy) fun hz' => issueLe_trans _ _ _ hxy ((List.pairwise_cons.mp h).1 z hz')

theorem insertI_sorted (x : Tabular.Issue) : ∀ l : List Tabular.Issue, SortedI l → SortedI (insertI x l)
  | [], _ => List.pairwise_singleton ..
  | y :: ys, h => by
    have hy := List.pairwise_cons.mp h
    rw [insertI_cons]
    split
    · rename_i hxy
      exact List.pairwise_cons.mpr ⟨le_all_of_le_head h hxy, h⟩
    · rename_i hxy
      refine List.pairwise_cons.mpr ⟨fun z hz => ?_, insertI_sorted x ys hy.2⟩
      rcases (mem_insertI x z ys).mp hz with rfl | hz
      · exact (issueLe_total z y).resolve_left hxy
      · exact hy.1 z hz

theorem sortIssues_sorted : ∀ l : List Tabular.Issue, SortedI (sortIssues l)
  | [] => List.Pairwise.nil
  | x :: xs => insertI_sorted x _ (sortIssues_sorted xs)

theorem insertI_front (x : Tabular.Issue) : ∀ l : List Tabular.Issue, (∀ z ∈ l, issueLe x z = true) → insertI x l = x :: l
  | [], _ => rfl
  | y :: _, h => if_pos (h y List.mem_cons_self)

theorem filter_insertI (p : Tabular.Issue → Bool) (x : Tabular.Issue) : ∀ l : List Tabular.Issue, SortedI l →
    (insertI x l).filter p = if p x then insertI x (l.filter p) else l.filter p
  | [], _ => List.filter_cons
  | y :: ys, h => by
    rw [insertI_cons]
    split
    · rename_i hxy
      -- `x` is below everything kept, so it stays in front
      rw [List.filter_cons, insertI_front x _ fun z hz => le_all_of_le_head h hxy z (List.mem_filter.mp hz).1]
    · rename_i hxy
      rw [List.filter_cons, filter_insertI p x ys (List.pairwise_cons.mp h).2, List.filter_cons]
      cases p x
      · rfl
      · cases p y
        · rfl
        · exact (if_neg hxy).symm

/-- a stable sort by a total preorder commutes with any filter -/
theorem sortIssues_filter (p : Tabular.Issue → Bool) : ∀ l : List Tabular.Issue,
    sortIssues (l.filter p) = (sortIssues l).filter p
  | [] => rfl
  | x :: xs => by
    rw [sortIssues, filter_insertI p x _ (sortIssues_sorted xs), List.filter_cons, ← sortIssues_filter p xs]
    cases p x <;> rfl

theorem isErr_relabel (labs : List Nat) (adj : Nat) (i : Tabular.Issue) : isErr (relabel labs adj i) = isErr i := rfl

theorem enumF_map {α β} (f : α → β) : ∀ (n : Nat) (l : List α),
    enumF n (l.map f) = (enumF n l).map fun pr => (pr.1, f pr.2)
  | _, [] => rfl
  | n, x :: xs => congrArg ((n, f x) :: ·) (enumF_map f (n + 1) xs)

/-- what turning warnings off does to one row's result -/
def dropW (r : RowRes) : RowRes := ⟨r.issues.filter isErr, r.invalid⟩

theorem invalidRows_dropW (rr : List RowRes) : invalidRows (rr.map dropW) = invalidRows rr := by
  simp only [invalidRows, enumF_map, List.filterMap_map]
  rfl

section
variable (gate : List RIssue → Bool) (hg : ∀ l, gate (l.filter RIssue.isError) = gate l)
include hg

theorem checkRowW_false (cfg : Cfg) (ol : Bool) (p : Nat) (r : Row) :
    checkRowW gate false cfg ol p r = dropW (checkRowW gate true cfg ol p r) := by
  simp only [checkRowW, keepR, keepI, Bool.false_eq_true, ↓reduceIte, hg, dropW]
  split
  · rfl
  · split
    · rfl
    · simp [List.filter_append]

theorem rowPhaseW_false (cfg : Cfg) (ol : Nat × Row → Bool) (R : List Row) :
    rowPhaseW gate false cfg ol R = (rowPhaseW gate true cfg ol R).map dropW := by
  simp only [rowPhaseW, List.map_map]
  congr 1
  funext pr
  exact checkRowW_false gate hg cfg _ _ _

theorem coreW_false (cfg : Cfg) (ol : Nat × Row → Bool) (R : List Row) :
    coreW gate false cfg ol R = (coreW gate true cfg ol R).filter isErr := by
  simp only [coreW, rowPhaseW_false gate hg, invalidRows_dropW, keepI, Bool.false_eq_true, ↓reduceIte,
    List.filter_append, List.filter_flatMap, List.flatMap_map]
  congr 1
  split <;> rfl

theorem assembleW_false (cfg : Cfg) (T : List Row) (ol : Nat × Row → Bool) :
    assembleW gate false cfg T ol = (assembleW gate true cfg T ol).filter isErr := by
  simp only [assembleW, coreW_false gate hg, keepI, Bool.false_eq_true, ↓reduceIte]
  rw [← sortIssues_filter]
  congr 1
  simp only [List.filter_append, List.filter_map]
  rfl

theorem reachesW_false (cfg : Cfg) (r : Row) : reachesW gate false cfg r = reachesW gate true cfg r := by
  simp [reachesW, keepR, hg]

end

end HedVerif.Flow.Tab

namespace HedVerif.C12
open HedVerif HedVerif.Flow HedVerif.Flow.Tab HedVerif.Tabular

/-- with warnings kept and the code's gate the C12-layer function is the C07 model of `SpreadsheetValidator.validate` -/
theorem file_validateW_true (cfg : Cfg) (T : List Row) : Tab.validateW anyError true cfg T = Tabular.validate cfg T := rfl

/-- **Errors only = the error subset (file level)**, for every gate on `new_column_issues` that does not look at
warnings: same exception, or exactly the error-severity issues (in `sort_issues` order) of the warnings-on run —
the rows skipped, the rows marked invalid for the time-point pass and the `IndexError` of `onset_mask` are the same
in both runs. -/
theorem file_filter (gate : List RIssue → Bool) (hg : ∀ l, gate (l.filter RIssue.isError) = gate l)
    (cfg : Cfg) (T : List Row) :
    Tab.validateW gate false cfg T = (Tab.validateW gate true cfg T).map (·.filter isErr) := by
  simp only [Tab.validateW, reachesW_false gate hg, assembleW_false gate hg]
  split
  · split
    · rfl
    · split <;> rfl
  · rfl

/-- `file_filter` for the code's gate `check_for_any_errors`, with the string validator inside. -/
theorem file_filter_closed (env : Validate.Env) (kB : RIssue) (cfg : Cfg) (T : List Row) :
    validateClosedW false env kB cfg T = (validateClosedW true env kB cfg T).map (·.filter isErr) ∧
    validateClosedW true env kB cfg T = Tabular.validateClosed env kB cfg T :=
  ⟨file_filter anyError gates_see_errors_only.2.1 _ T, rfl⟩

private def wCfg : Cfg :=
  { rowAdj := 1, hasOnset := false, columns := [['H']], catCols := [], mapIssues := [], refs := [], allColumns := [],
    maskByRow := true, guardDelay := true, kKey := ⟨[], 1⟩, kRef := ⟨[], 1⟩, kUnordered := ⟨[], 1⟩,
    kTemporal := fun _ => ⟨[], 1⟩,
    o := { cell := fun _ => [⟨['W'], 10⟩], full := fun _ => [⟨['E'], 1⟩], pfull := fun _ => [], banned := fun _ => [],
           items := fun _ => none, markers := fun _ => [], fold := id } }

private def kinds (r : Except PyExc (List Tabular.Issue)) : Option (List Str) := r.toOption.map (·.map (·.kind))

/-- **The gate matters** (seeded change `if new_column_issues:`): a row whose only cell issue is a warning and whose
row-level check finds an error.  With the non-empty gate the warnings-on run skips the row while the warnings-off run
reports the error: errors-only is NOT the error subset.  With `check_for_any_errors` it is. -/
theorem file_gate_counterexample :
    kinds (Tab.validateW gateNonEmpty true wCfg [⟨none, [['x']], []⟩]) = some [['W']] ∧
    kinds (Tab.validateW gateNonEmpty false wCfg [⟨none, [['x']], []⟩]) = some [['E']] ∧
    kinds (Tab.validateW anyError true wCfg [⟨none, [['x']], []⟩]) = some [['E'], ['W']] ∧
    kinds (Tab.validateW anyError false wCfg [⟨none, [['x']], []⟩]) = some [['E']] := by decide +kernel

end HedVerif.C12

namespace HedVerif.C12
open HedVerif HedVerif.Flow HedVerif.Flow.Sc HedVerif.SidecarV

theorem sidecar_validateW_true (g : Guards) (O : Oracle) (doc : Json) : Sc.validateW true g O doc = SidecarV.validate g O doc := rfl

/-- **Errors only = the error subset (sidecar level)**, provided the definition issues — the one list that
`SidecarValidator.validate` appends without passing it through the handler — hold no warning. -/
theorem sidecar_filter_partial (g : Guards) (O : Oracle) (doc : Json) (hd : ∀ i ∈ O.defIssues, i.isError = true) :
    Sc.validateW false g O doc = (Sc.validateW true g O doc).map (·.filter SidecarV.Issue.isError) := by
  have hdf : O.defIssues.filter SidecarV.Issue.isError = O.defIssues := List.filter_eq_self.mpr hd
  simp only [Sc.validateW, keepS, Bool.false_eq_true, ↓reduceIte, gates_see_errors_only.2.2]
  -- step by step through the validator: an exception on the left is the same exception on the right
  split
  · rfl
  split
  · rfl
  split
  · rfl
  split
  · rfl
  split
  · rfl
  split
  · rfl
  split
  · rfl
  split
  · rfl
  simp only [Except.map, List.filter_append, hdf]

/-- `sidecar_filter_partial` with the string validator inside: `Closed.sidecarOracle` has `defIssues = []` (the issues of
a sidecar's own definitions are left out of that model). -/
theorem sidecar_filter (env : Validate.Env) (g : Guards) (doc : Json) :
    Sc.validateClosedW false env g doc = (Sc.validateClosedW true env g doc).map (·.filter SidecarV.Issue.isError) ∧
    Sc.validateClosedW true env g doc = SidecarV.validateClosed env g doc :=
  ⟨sidecar_filter_partial g _ doc (by intro i hi; simp [Closed.sidecarOracle] at hi), rfl⟩

end HedVerif.C12

namespace HedVerif.C12
open HedVerif HedVerif.Schema

/-- **The model's fold preserves length.**  Hypothesis of no theorem: it records the modelling assumption under which
`offsets_closed` speaks about the real code.  `_find_tag_entry` measures the offsets of its lookup errors on
`clean_tag.casefold()`, which has the positions of `clean_tag` iff `len(c.casefold()) = 1` for every character before
the reported end; with `ß`, `ﬁ`, `İ` the real code is outside the model (finding C12-casefold-length-offsets). -/
theorem fold_preserves_length (s : Str) : (Validate.fold s).length = s.length := by simp [Validate.fold]

/-- a fold that lengthens one character, as `casefold` does for `ß`: `ß ↦ ss`, ASCII letters lower-cased -/
def foldSS (s : Str) : Str := s.flatMap fun c => if c == 'ß' then ['s', 's'] else [c.toLower]

private def tinyNames : List Name := [[['E','v','e','n','t']], [['R','e','d']]]
private def evText : Str := ['E','v','e','n','t','/','ß','ß','/','R','e','d']

/-- the offsets a failed lookup reports -/
def lookupSpan : FindResult → Option (Nat × Nat)
  | .invalidParent a b _ => some (a, b)
  | .noValidTag b => some (0, b)
  | .found _ _ => none

/-- **With a length-changing fold the offsets leave the tag** (the real `'Event/ßß/Red'`: TAG_EXTENSION_INVALID with
offsets 11..14 in a 12-character tag, `Red` sits at 9..12): the lookup walk measures the extension terms on the folded
text.  With the length-preserving fold the same walk reports 9..12. -/
theorem offsets_length_changing_fold_counterexample :
    lookupSpan (find (Vocab.build foldSS tinyNames) foldSS evText) = some (11, 14) ∧ evText.length = 12 ∧
    lookupSpan (find (Vocab.build Validate.fold tinyNames) Validate.fold evText) = some (9, 12) ∧
    Tree.slice evText 9 12 = ['R','e','d'] := by decide +kernel

end HedVerif.C12
