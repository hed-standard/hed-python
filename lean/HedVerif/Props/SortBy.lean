/-
Stable insertion sort by an integer key.  `Temporal.insertRow`/`sortRows` and `Events.insertRow`/`sortRows` are
instances of `insertBy`/`sortBy`; their sortedness, permutation and commutation facts come from here.
-/
namespace HedVerif.SortBy

variable {α : Type} (key : α → Int)

def insertBy (x : α) : List α → List α
  | [] => [x]
  | y :: ys => if key x ≤ key y then x :: y :: ys else y :: insertBy x ys

def sortBy : List α → List α
  | [] => []
  | x :: xs => insertBy key x (sortBy xs)

theorem insertBy_perm (x : α) (l : List α) : (insertBy key x l).Perm (x :: l) := by
  induction l with
  | nil => exact List.Perm.refl _
  | cons y ys ih =>
    rw [insertBy]
    split
    · exact List.Perm.refl _
    · exact (List.Perm.cons y ih).trans (List.Perm.swap x y ys)

theorem sortBy_perm (l : List α) : (sortBy key l).Perm l := by
  induction l with
  | nil => exact List.Perm.refl _
  | cons x xs ih => exact (insertBy_perm key x _).trans (List.Perm.cons x ih)

theorem insertBy_sorted (x : α) (l : List α) (h : l.Pairwise fun a b => key a ≤ key b) :
    (insertBy key x l).Pairwise fun a b => key a ≤ key b := by
  induction l with
  | nil => exact List.pairwise_singleton _ _
  | cons y ys ih =>
    rw [List.pairwise_cons] at h
    rw [insertBy]
    split
    · next hle =>
      refine List.pairwise_cons.2 ⟨fun b hb => ?_, List.pairwise_cons.2 h⟩
      rcases List.mem_cons.1 hb with rfl | hb
      · exact hle
      · exact Int.le_trans hle (h.1 b hb)
    · next hle =>
      refine List.pairwise_cons.2 ⟨fun b hb => ?_, ih h.2⟩
      rcases List.mem_cons.1 ((insertBy_perm key x ys).mem_iff.1 hb) with rfl | hb
      · exact Int.le_of_lt (Int.lt_of_not_ge hle)
      · exact h.1 b hb

theorem sortBy_sorted (l : List α) : (sortBy key l).Pairwise fun a b => key a ≤ key b := by
  induction l with
  | nil => exact List.Pairwise.nil
  | cons x xs ih => exact insertBy_sorted key x _ ih

/-- sorting commutes with a map that keeps the key -/
theorem insertBy_map {β : Type} (f : α → β) (key' : β → Int) (hk : ∀ a, key' (f a) = key a) (x : α)
    (l : List α) : (insertBy key x l).map f = insertBy key' (f x) (l.map f) := by
  induction l with
  | nil => rfl
  | cons y ys ih =>
    rw [insertBy, List.map_cons, insertBy, hk, hk]
    split
    · rfl
    · rw [List.map_cons, ih]

theorem sortBy_map {β : Type} (f : α → β) (key' : β → Int) (hk : ∀ a, key' (f a) = key a) (l : List α) :
    (sortBy key l).map f = sortBy key' (l.map f) := by
  induction l with
  | nil => rfl
  | cons x xs ih => rw [sortBy, insertBy_map key f key' hk, ih, List.map_cons, sortBy]

end HedVerif.SortBy
