/-
C12 — Every reported issue is well-formed and points at the offending text.
-/
import HedVerif.Model.Issue
import HedVerif.Props.C12Stack
import HedVerif.Generated.C12Sort
import HedVerif.Props.CodePoint

namespace HedVerif.Issue

theorem addContext_severity (i : Issue) (ctx : List (Str × Val)) : (addContext i ctx).severity = i.severity := rfl

theorem any_filter_self {α} (p : α → Bool) (l : List α) : (l.filter p).any p = l.any p := by
  rw [List.any_filter]
  exact congrArg (List.any l) (funext fun x => Bool.and_self (p x))

theorem filter_map_comm (f : Issue → Issue) (hf : ∀ i, (f i).severity = i.severity) (l : List Issue) :
    filterErrors (l.map f) = (filterErrors l).map f := by
  have hc : isError ∘ f = isError := funext fun i => congrArg (decide <| · ≤ 1) (hf i)
  rw [filterErrors, List.filter_map, hc]
  rfl

theorem filterErrors_idem (l : List Issue) : filterErrors (filterErrors l) = filterErrors l :=
  List.filter_eq_self.mpr fun _ hi => (List.mem_filter.mp hi).2

theorem filterErrors_append (a b : List Issue) : filterErrors (a ++ b) = filterErrors a ++ filterErrors b :=
  List.filter_append ..

theorem anyErrors_filter (l : List Issue) : anyErrors (filterErrors l) = anyErrors l := any_filter_self isError l

theorem noErrors_filter_nil (l : List Issue) (h : anyErrors l = false) : filterErrors l = [] :=
  List.filter_eq_nil_iff.mpr fun i hi hie => Bool.false_ne_true (h.symm.trans (List.any_eq_true.mpr ⟨i, hi, hie⟩))

theorem ins_cons (key : Issue → List KeyPart) (x y : Issue) (ys : List Issue) :
    sortBy.ins key x (y :: ys) = if keyLt (key y) (key x) then y :: sortBy.ins key x ys else x :: y :: ys := rfl

theorem ins_perm (key : Issue → List KeyPart) (x : Issue) (l : List Issue) :
    (sortBy.ins key x l).Perm (x :: l) := by
  induction l with
  | nil => exact List.Perm.refl _
  | cons y ys ih =>
    rw [ins_cons]
    split
    · exact (List.Perm.cons y ih).trans (List.Perm.swap x y ys)
    · exact List.Perm.refl _

theorem ins_mem (key : Issue → List KeyPart) (x : Issue) (l : List Issue) (z : Issue) :
    z ∈ sortBy.ins key x l ↔ z = x ∨ z ∈ l :=
  (ins_perm key x l).mem_iff.trans List.mem_cons

theorem strLt_eq_lex : ∀ a b : Str, strLt a b = a.lex b fun x y => decide (x.toNat < y.toNat)
  | [], [] => rfl
  | [], _ :: _ => rfl
  | _ :: _, [] => rfl
  | a :: as, b :: bs => congrArg (fun r => decide (a.toNat < b.toNat) || (a == b && r)) (strLt_eq_lex as bs)

theorem keyLt_eq_lex : ∀ a b : List KeyPart, keyLt a b = a.lex b KeyPart.lt
  | [], [] => rfl
  | [], _ :: _ => rfl
  | _ :: _, [] => rfl
  | a :: as, b :: bs => congrArg (fun r => a.lt b || (a == b && r)) (keyLt_eq_lex as bs)

theorem strLt_irrefl (a : Str) : strLt a a = false := by
  rw [strLt_eq_lex]
  exact lex_irrefl_bool _ (fun x : Char => decide_eq_false (Nat.lt_irrefl x.toNat)) a

theorem strLt_asymm (a b : Str) (h : strLt a b = true) : strLt b a = false := by
  rw [strLt_eq_lex] at h ⊢
  exact lex_asymm_bool _ (fun x y hxy => decide_eq_false (Nat.lt_asymm (of_decide_eq_true hxy))) h

theorem partLt_irrefl : ∀ a : KeyPart, a.lt a = false
  | .n v => decide_eq_false (Int.lt_irrefl v)
  | .s v => strLt_irrefl v

theorem partLt_asymm : ∀ a b : KeyPart, a.lt b = true → b.lt a = false
  | .n _, .n _, h => decide_eq_false (Int.lt_asymm (of_decide_eq_true h))
  | .s a, .s b, h => strLt_asymm a b h
  | .n _, .s _, _ => rfl
  | .s _, .n _, h => nomatch h

theorem keyLt_irrefl (k : List KeyPart) : keyLt k k = false := by
  rw [keyLt_eq_lex]
  exact lex_irrefl_bool _ partLt_irrefl k

theorem keyLt_asymm (a b : List KeyPart) (h : keyLt a b = true) : keyLt b a = false := by
  rw [keyLt_eq_lex] at h ⊢
  exact lex_asymm_bool _ partLt_asymm h

/-- no element is strictly smaller than an earlier one -/
def Sorted (key : Issue → List KeyPart) : List Issue → Prop
  | [] => True
  | x :: xs => (∀ y ∈ xs, keyLt (key y) (key x) = false) ∧ Sorted key xs

/-- consecutive elements are never in strictly descending key order -/
def AdjSorted (key : Issue → List KeyPart) : List Issue → Prop
  | [] => True
  | [_] => True
  | a :: b :: rest => keyLt (key b) (key a) = false ∧ AdjSorted key (b :: rest)

theorem ins_adjSorted (key : Issue → List KeyPart) (x : Issue) (l : List Issue)
    (h : AdjSorted key l) : AdjSorted key (sortBy.ins key x l) := by
  induction l with
  | nil => trivial
  | cons y ys ih =>
    rw [ins_cons]
    split
    · rename_i hyx
      cases ys with
      | nil => exact ⟨keyLt_asymm _ _ hyx, trivial⟩
      | cons z zs =>
        have ih' := ih h.2
        rw [ins_cons] at ih' ⊢
        by_cases hzx : keyLt (key z) (key x) = true
        · rw [if_pos hzx] at ih' ⊢
          exact ⟨h.1, ih'⟩
        · rw [if_neg hzx] at ih' ⊢
          exact ⟨keyLt_asymm _ _ hyx, ih'⟩
    · rename_i hyx
      exact ⟨Bool.eq_false_iff.mpr hyx, h⟩

theorem ins_filter_key (key : Issue → List KeyPart) (x : Issue) (l : List Issue) (k : List KeyPart) :
    (sortBy.ins key x l).filter (fun i => key i == k) =
      (if key x == k then x :: l.filter (fun i => key i == k) else l.filter (fun i => key i == k)) := by
  induction l with
  | nil => exact List.filter_cons
  | cons y ys ih =>
    rw [ins_cons]
    split
    · rename_i hyx
      rw [List.filter_cons, ih, List.filter_cons]
      by_cases hxk : (key x == k) = true
      · -- `y` is strictly smaller than `x`, so it has another key
        have hyk : ¬ (key y == k) = true := fun hyk => by
          rw [eq_of_beq hyk, ← eq_of_beq hxk, keyLt_irrefl] at hyx
          exact Bool.false_ne_true hyx
        simp only [if_pos hxk, if_neg hyk]
      · simp only [if_neg hxk]
    · exact List.filter_cons

theorem export_isJson : ∀ v : Val, v.export.isJson = true
  | .num _ => rfl
  | .str _ => rfl
  | .ref _ => rfl
  | .list xs => exportList_allJson xs
where exportList_allJson : ∀ xs : List Val, Val.isJson.allJson (Val.export.exportList xs) = true
  | [] => rfl
  | x :: xs => Bool.and_eq_true_iff.mpr ⟨export_isJson x, exportList_allJson xs⟩

theorem updateCharPos_charIdx (i : Issue) (s e : Nat) (hspan : i.span = some (s, e)) :
    (updateCharPos true i).charIdx = some (if i.modified then (s, e) else
      (s + i.idx.getD 0, match i.idxEnd with | some k => s + k | none => e)) := by
  unfold updateCharPos
  rw [hspan]
  rfl

end HedVerif.Issue

namespace HedVerif.C12
open HedVerif.Issue

/-- **Fields.** Decoration and filtering never change code or severity. -/
theorem decorate_keeps_code_severity (w hs : Bool) (ctx : List (Str × Val)) (l : List Issue) :
    ∀ j ∈ decorate w hs ctx l, ∃ i ∈ l, j.code = i.code ∧ j.severity = i.severity := by
  intro j hj
  obtain ⟨i, hi, rfl⟩ := List.mem_map.mp hj
  refine ⟨i, ?_, updateCharPos_code hs _, updateCharPos_severity hs _⟩
  cases w
  · exact (List.mem_filter.mp hi).1
  · exact hi

/-- **Offsets.** If the tag-relative indices lie inside the tag (`idx ≤ idxEnd ≤ e − s`) and the tag
span lies inside the text, the character offsets lie inside the text and inside the tag's span. -/
theorem offsets_in_range (i : Issue) (s e n : Nat) (hspan : i.span = some (s, e)) (hse : s ≤ e) (hen : e ≤ n)
    (hidx : i.idx.getD 0 ≤ (i.idxEnd.getD (e - s))) (hend : i.idxEnd.getD (e - s) ≤ e - s) :
    ∃ a b, (updateCharPos true i).charIdx = some (a, b) ∧ s ≤ a ∧ a ≤ b ∧ b ≤ e ∧ e ≤ n := by
  rw [updateCharPos_charIdx i s e hspan]
  cases i.modified with
  | true => exact ⟨s, e, rfl, Nat.le_refl _, hse, Nat.le_refl _, hen⟩
  | false =>
    cases hie : i.idxEnd with
    | none =>
      rw [hie, Option.getD_none] at hidx
      exact ⟨_, e, rfl, Nat.le_add_right .., by omega, Nat.le_refl _, hen⟩
    | some k =>
      rw [hie, Option.getD_some] at hidx hend
      exact ⟨_, s + k, rfl, Nat.le_add_right .., Nat.add_le_add_left hidx s, by omega, hen⟩

/-- **Quoted fragment.** The fragment quoted in the message, `tag[idx:idxEnd]` with
`tag = text[s:e]`, is exactly `text[s+idx : s+idxEnd]`. -/
theorem fragment_is_text_slice (text : Str) (s e a b : Nat) (hb : b ≤ e - s) :
    Tree.slice (Tree.slice text s e) a b = Tree.slice text (s + a) (s + b) := by
  unfold Tree.slice
  rw [List.drop_take, List.take_take, List.drop_drop, Nat.add_sub_add_left, Nat.min_eq_left (Nat.sub_le_sub_right hb a)]

def iter {α : Type} (f : α → α) : Nat → α → α
  | 0, a => a
  | n + 1, a => iter f n (f a)

theorem iter_le {α : Type} (f : α → α) (μ : α → Nat) (h : ∀ a, μ (f a) ≤ μ a) : ∀ (n : Nat) (a : α), μ (iter f n a) ≤ μ a
  | 0, _ => Nat.le_refl _
  | n + 1, a => Nat.le_trans (iter_le f μ h n (f a)) (h a)

/-- the suffix is appended only on the pass that sets `char_index` -/
theorem updateCharPos_potential (hs : Bool) (j : Issue) :
    (updateCharPos hs j).suffixes + (if (updateCharPos hs j).charIdx.isNone then 1 else 0) ≤
      j.suffixes + (if j.charIdx.isNone then 1 else 0) := by
  obtain h | ⟨c, h⟩ := updateCharPos_eq hs j
  · rw [h]
    exact Nat.le_refl _
  · rw [h]
    show (if j.charIdx.isNone then j.suffixes + 1 else j.suffixes) + 0 ≤ _
    cases j.charIdx.isNone <;> exact Nat.le_refl _

/-- **Location suffix once.** However often an issue passes through decoration, the location text
is appended at most once (code after fix 10acb36). -/
theorem suffix_once (hs : Bool) (i : Issue) (n : Nat) (h0 : i.charIdx = none) :
    (iter (updateCharPos hs) n i).suffixes ≤ i.suffixes + 1 := by
  have h := iter_le (updateCharPos hs) (fun j => j.suffixes + if j.charIdx.isNone then 1 else 0)
    (updateCharPos_potential hs) n i
  rw [h0] at h
  exact Nat.le_trans (Nat.le_add_right ..) h

/-- the code before the fix appended the suffix on every pass -/
theorem suffix_twice_counterexample :
    let i : Issue := { code := [], severity := 10, span := some (0, 3) }
    (updateCharPosOld true (updateCharPosOld true i)).suffixes = 2 := by decide

theorem decorate_false (hs : Bool) (ctx : List (Str × Val)) (l : List Issue) :
    decorate false hs ctx l = filterErrors (decorate true hs ctx l) :=
  (filter_map_comm _ (fun i => (updateCharPos_severity hs _).trans (addContext_severity i ctx)) l).symm

/-- **Errors only = the error-severity subset.** The validation pipeline run with warnings off returns
exactly the error-severity issues of the run with warnings on (the short-circuit looks at errors only). -/
theorem pipeline_filter (hs : Bool) (ctx : List (Str × Val)) (basic full : List Issue) :
    pipeline false hs ctx basic full = filterErrors (pipeline true hs ctx basic full) := by
  unfold pipeline
  dsimp only
  rw [decorate_false hs ctx basic, anyErrors_filter]
  split
  · rfl
  · -- filtering the already filtered first part again changes nothing
    rw [← decorate_false hs ctx (_ ++ full)]
    show decorate true hs ctx (filterErrors (filterErrors _ ++ full)) = decorate true hs ctx (filterErrors (_ ++ full))
    rw [filterErrors_append, filterErrors_idem, ← filterErrors_append]

/-- **Sorting** is a permutation, -/
theorem sort_perm (key : Issue → List KeyPart) (l : List Issue) : (sortBy key l).Perm l := by
  induction l with
  | nil => exact List.Perm.refl _
  | cons x xs ih => exact (ins_perm key x _).trans (List.Perm.cons x ih)

/-- never puts a strictly smaller key immediately after a larger one (adjacent pairs; `keyLt` is not proved transitive), -/
theorem sort_ordered (key : Issue → List KeyPart) (l : List Issue) : AdjSorted key (sortBy key l) := by
  induction l with
  | nil => trivial
  | cons x xs ih => exact ins_adjSorted key x _ ih

/-- and is stable: issues with equal keys keep their relative order. -/
theorem sort_stable (key : Issue → List KeyPart) (l : List Issue) (k : List KeyPart) :
    (sortBy key l).filter (fun i => key i == k) = l.filter (fun i => key i == k) := by
  induction l with
  | nil => rfl
  | cons x xs ih =>
    simp only [sortBy, ins_filter_key, ih, List.filter_cons]

/-- Lexicographic in the order of the sort list: a strictly smaller first component decides
(`default_sort_list`: custom title, file, sidecar column, sidecar key, row). -/
theorem key_lexicographic (a b : KeyPart) (as bs : List KeyPart) :
    keyLt (a :: as) (b :: bs) = (a.lt b || (a == b && keyLt as bs)) := rfl

/-- **Export.** After reference replacement every field value is JSON-serialisable, and code and
severity are unchanged. -/
theorem export_json (i : Issue) :
    (∀ kv ∈ (exportIssue i).ctx, kv.2.isJson = true) ∧
    (exportIssue i).code = i.code ∧ (exportIssue i).severity = i.severity := by
  refine ⟨fun kv hkv => ?_, rfl, rfl⟩
  obtain ⟨⟨k, v⟩, _, rfl⟩ := List.mem_map.mp hkv
  exact export_isJson v

/-- a warning decorated twice -/
example :
    let i : Issue := { code := "TAG_EXTENDED".toList, severity := 10, span := some (4, 11), idx := some 3,
                       idxEnd := some 7 }
    let d := updateCharPos true (updateCharPos true i)
    d.charIdx = some (7, 11) ∧ d.suffixes = 1 := by decide

end HedVerif.C12

namespace HedVerif.C12
open HedVerif.Generated.C12 in
/-- **Regenerated table obligation**: in `default_sort_list`, file name, sidecar column,
sidecar key and row come in this order, before every other context but the custom title; only the row sorts as a number. -/
theorem sort_list_spec :
    ((sortList.map (·.1)).filter (fun n => specOrder.contains n) = specOrder) ∧
    (((sortList.map (·.1)).drop 1).take 4 = specOrder) ∧
    (sortList.filter (·.2) |>.map (·.1)) = [specOrder.getLast!] := by decide +kernel
end HedVerif.C12
