/-
C08 — Sidecar validation is total and flags each structural fault.

`validate Guards.fixed` is the model of hed-python as committed, with its four guards (`Guards`: eb4139a, 16c8f7f,
2a79923, 744ce3d); `Guards.unfixed` the code before them.  `validateP` below is the same computation written without the
`Except` steps; `validate_eq` shows the two coincide on every JSON value, which is what "never raises" means
for the model (`total`).  The remaining theorems are about `validateP`.
-/
import HedVerif.Model.SidecarV
import HedVerif.Props.C09
namespace HedVerif.C08
open HedVerif.SidecarV HedVerif.Generated

theorem mapE_cons_ok {f : α → Except Exn β} {x : α} {xs : List α} {y : β} {ys : List β}
    (hx : f x = .ok y) (hxs : mapE f xs = .ok ys) : mapE f (x :: xs) = .ok (y :: ys) := by
  rw [mapE, hx]
  simp only [hxs]

theorem mapE_ok {f : α → Except Exn β} (g : α → β) :
    ∀ xs : List α, (∀ x ∈ xs, f x = .ok (g x)) → mapE f xs = .ok (xs.map g)
  | [], _ => rfl
  | x :: xs, h =>
    mapE_cons_ok (h x (List.mem_cons_self ..)) (mapE_ok g xs fun y hy => h y (List.mem_cons_of_mem _ hy))

theorem contains_keys (k : Str) : ∀ kvs : List (Str × α), (kvs.map (·.1)).contains k = (lookup k kvs).isSome
  | [] => rfl
  | (k', v) :: rest => by
    rw [List.map_cons, List.contains_cons, lookup, contains_keys k rest]
    cases k == k' <;> rfl

/-- `_detect_column_type` without the `Except` steps -/
def detectP (basic : Bool) : Json → Option CType
  | .obj kvs => match lookup HED kvs with
    | none => some .ignore
    | some (.obj vs) => if basic && !vs.all (fun kv => isStr kv.2) then none else some .categorical
    | some (.str s) => if basic && countHash s == 0 then none else some .value
    | some _ => none
  | _ => some .ignore

theorem detect_eq (b : Bool) (e : Json) : detect b e = .ok (detectP b e) := by
  cases e with
  | obj kvs =>
    cases kvs with
    | nil => rfl
    | cons kv rest =>
      simp only [detect, detectP, truthy, isDict, keys, getItem, contains_keys]
      cases lookup HED (kv :: rest) with
      | none => rfl
      | some v =>
        cases v with
        | obj _ | str _ => exact (apply_ite Except.ok _ _ _).symm
        | _ => rfl
  | _ => simp only [detect, isDict, Bool.not_false, Bool.or_true, if_true, detectP]

def strOf (kv : Str × Json) : Option (Str × Str) :=
  match kv.2 with
  | .str s => some (kv.1, s)
  | _ => none

theorem series_obj : ∀ vs : List (Str × Json), vs.all (fun kv => isStr kv.2) = true →
    mapE (fun kv : Str × Json => match kv.2 with
      | .str s => Except.ok (kv.1, s)
      | _ => .error .unmodelled) vs = .ok (vs.filterMap strOf)
  | [], _ => rfl
  | (k, v) :: rest, h => by
    rw [List.all_cons, Bool.and_eq_true] at h
    cases v with
    | str s => exact mapE_cons_ok rfl (series_obj rest h.2)
    | _ => exact absurd h.1 Bool.false_ne_true

/-- `get_hed_strings` without the `Except` steps -/
def stringsP (e : Json) (t : Option CType) : List (Str × Str) :=
  match t, e with
  | some _, .obj kvs => match lookup HED kvs with
    | some (.str s) => [([], s)]
    | some (.obj vs) => vs.filterMap strOf
    | _ => []
  | _, _ => []

/-- the stored column type is compatible with what the entry holds: every value that will reach `pd.Series` is a string
(`good_basic`: the constructor's typing; `good_raw`: the re-typing of `_get_unvalidated_data`) -/
def Good (e : Json) (t : Option CType) : Prop :=
  t = none ∨ match e with
    | .obj kvs => match lookup HED kvs with
      | some (.obj vs) => vs.all (fun kv => isStr kv.2) = true
      | some (.str _) => True
      | none => True
      | some _ => False
    | _ => True

theorem hedStrings_good {n : Str} {e : Json} {t : Option CType} (h : Good e t) :
    hedStrings .fixed ⟨n, e, t⟩ = .ok (stringsP e t) := by
  cases t with
  | none => rfl
  | some t =>
    have h' := h.resolve_left nofun
    cases e with
    | obj kvs =>
      simp only [hedStrings, hedDict, Guards.fixed, isDict, attrGet, stringsP]
      cases hl : lookup HED kvs with
      | none => rfl
      | some v =>
        simp only [hl] at h'
        cases v with
        | obj vs => exact series_obj _ h'
        | str s => rfl
        | _ => exact h'.elim
    | _ => rfl

theorem good_basic (e : Json) : Good e (detectP true e) := by
  unfold Good
  cases e with
  | obj kvs =>
    simp only [detectP]
    cases hl : lookup HED kvs with
    | none => simp
    | some v =>
      cases v with
      | obj vs => by_cases hall : vs.all (fun kv => isStr kv.2) = true <;> simp [hall]
      | _ => simp
  | _ => simp

theorem mk_isError (k : Kind) (col key : Option Str) : (mk k col key).isError = true := by
  cases k with
  | defn i => cases i <;> rfl
  | _ => rfl

/-- `_validate_column_structure` without the `Except` steps -/
def columnStructureP (ne : Str × Json) : List Issue :=
  if reservedColumn ne.1 then [mk .hedUsedColumn (some ne.1) none]
  else match detectP false ne.2 with
    | none => [mk .unknownType (some ne.1) none]
    | some .ignore => if hasKey HED ne.2 then [mk .hedUsed (some ne.1) none] else []
    | some .value => []
    | some .categorical => match ne.2 with
      | .obj kvs => match lookup HED kvs with
        | some (.obj vs) => (if vs.isEmpty then [mk .blank (some ne.1) none] else []) ++ vs.flatMap (categoryIssue ne.1)
        | _ => []
      | _ => []

theorem columnStructure_eq (ne : Str × Json) : columnStructure ne = .ok (columnStructureP ne) := by
  obtain ⟨n, e⟩ := ne
  unfold columnStructure columnStructureP
  split
  · rfl
  · rw [detect_eq]
    cases e with
    | obj kvs =>
      simp only [detectP]
      cases hl : lookup HED kvs with
      | none => rfl
      | some v =>
        cases v with
        | obj vs => simp [categoricalIssues, getItem, hl, items, truthy]
        | _ => rfl
    | _ => rfl

def structureP (li : List Issue) (src : List (Str × Json)) : List Issue := li ++ src.flatMap columnStructureP

theorem structure_eq (li : List Issue) (src : List (Str × Json)) :
    structureIssues li src = .ok (structureP li src) := by
  simp [structureIssues, structureP, mapE_ok columnStructureP src (fun x _ => columnStructure_eq x),
    List.flatMap_def]

/-- `column_data` without the `Except` steps -/
def colsP (src : List (Str × Json)) : List Col := src.map fun ne => ⟨ne.1, ne.2, detectP true ne.2⟩

theorem columnData_eq (src : List (Str × Json)) : columnData src = .ok (colsP src) := by
  unfold columnData colsP
  apply mapE_ok
  intro x _
  simp [detect_eq]


def colRefsP (possible : List Str) (c : Col) : Str × List Str × List Issue :=
  let strs := stringsP c.entry c.ctype
  let refs := strs.flatMap (fun ks => findRefs ks.2)
  (c.name, refs,
   strs.flatMap (fun ks => stringRefIssues possible c.name (keyCtx strs ks.1) ks.2)
   ++ (if refs.contains c.name then [mk .selfRef none none] else []))

theorem colRefs_eq {possible : List Str} {c : Col} (h : Good c.entry c.ctype) :
    colRefs .fixed possible c = .ok (colRefsP possible c) := by
  cases c
  simp only [colRefs, colRefsP, hedStrings_good h]

def refIssuesP (cols : List Col) : List Issue :=
  let per := cols.map (colRefsP (possibleRefs cols))
  per.flatMap (fun p => p.2.2) ++ nestedIssues per

theorem refIssues_eq (cols : List Col) (h : ∀ c ∈ cols, Good c.entry c.ctype) :
    refIssues .fixed cols = .ok (refIssuesP cols) := by
  simp only [refIssues, refIssuesP,
    mapE_ok (colRefsP (possibleRefs cols)) cols (fun c hc => colRefs_eq (h c hc))]

def poundCountP (O : Oracle) (t : Option CType) (s : Str) (col key : Option Str) : List Issue :=
  match t with
  | some .value => if treeHash O s != 1 then [mk .poundValue col key] else []
  | some .categorical => if treeHash O s != 0 then [mk .poundCategory col key] else []
  | _ => []

/-- with the `shrink_defs` guard the count never raises -/
theorem poundOf_eq (O : Oracle) (s : Str) : poundOf .fixed O s = .ok (treeHash O s) := by
  simp [poundOf, Guards.fixed]

theorem poundCount_eq {O : Oracle} {t : Option CType} {s : Str} {col key : Option Str}
    (h : t = some .value ∨ t = some .categorical) :
    poundCount .fixed O t s col key = .ok (poundCountP O t s col key) := by
  unfold poundCount
  rw [poundOf_eq]
  rcases h with h | h <;> subst h <;> rfl

def fullIssuesP (O : Oracle) (rs : List (Str × List Str)) (s : Str) (col key : Option Str) : List Issue :=
  let refs := findRefs s
  let unknown := refs.filter (fun r => (lookup r rs).isNone)
  if !unknown.isEmpty then unknown.map (fun _ => mk .invalidRef col key)
  else (product (refs.map fun r => (lookup r rs).getD [])).flatMap
    fun combo => (O.full (combine O s refs combo)).map (ext col key)

theorem fullIssues_eq (O : Oracle) (rs : List (Str × List Str)) (s : Str) (col key : Option Str) :
    fullIssues .fixed O rs s col key = .ok (fullIssuesP O rs s col key) := by
  unfold fullIssues fullIssuesP
  simp only [Guards.fixed, Bool.true_and]
  split
  · rfl
  · rename_i hu
    rw [mapE_ok (fun r => (lookup r rs).getD [])]
    intro r hr
    cases hl : lookup r rs with
    | some l => rfl
    | none =>
      refine absurd ?_ hu
      rw [Bool.not_eq_true', List.isEmpty_eq_false_iff]
      exact List.ne_nil_of_mem (List.mem_filter.mpr ⟨hr, congrArg Option.isNone hl⟩)

def entryIssuesP (O : Oracle) (rs : List (Str × List Str)) (isRefCol : Bool) (t : Option CType) (col : Str)
    (key : Option Str) (s : Str) : Nat × List Issue :=
  (O.defCount s,
   (O.basic s).map (ext (some col) key)
   ++ (if O.defCount s == 0 then poundCountP O t s (some col) key else [])
   ++ (if isRefCol then [] else fullIssuesP O rs s (some col) key))

theorem entryIssues_eq {O : Oracle} {rs : List (Str × List Str)} {isRefCol : Bool} {t : Option CType} {col : Str}
    {key : Option Str} {s : Str} (h : t = some .value ∨ t = some .categorical) :
    entryIssues .fixed O rs isRefCol t col key s = .ok (entryIssuesP O rs isRefCol t col key s) := by
  unfold entryIssues entryIssuesP
  simp only [poundCount_eq h, fullIssues_eq]
  cases O.defCount s == 0 <;> cases isRefCol <;> rfl

def columnIssuesP (O : Oracle) (rs : List (Str × List Str)) (allRefCols : List Str) (c : Col) : List Issue :=
  let t := detectP false c.entry
  let strs := stringsP c.entry t
  let rsl := strs.map fun ks => entryIssuesP O rs (allRefCols.contains c.name) t c.name (keyCtx strs ks.1) ks.2
  rsl.flatMap (·.2) ++ badSpot c.name (rsl.map (·.1))

/-- an entry typed `ignore` has no `HED` key: it is `ignore` under both readings and has no strings -/
theorem ignore_spec {b : Bool} {e : Json} (h : detectP b e = some .ignore) :
    (∀ b', detectP b' e = some .ignore) ∧ ∀ t, stringsP e t = [] := by
  cases e with
  | obj kvs =>
    cases hl : lookup HED kvs with
    | none => exact ⟨fun _ => by simp only [detectP, hl], fun t => by cases t <;> simp only [stringsP, hl]⟩
    | some v =>
      simp only [detectP, hl] at h
      cases v with
      | obj _ | str _ =>
        dsimp only at h
        split at h <;> cases h
      | _ => cases h
  | _ => exact ⟨fun _ => rfl, fun t => by cases t <;> rfl⟩

theorem strings_type {e : Json} {b : Bool} {ks : Str × Str} (h : ks ∈ stringsP e (detectP b e)) :
    detectP b e = some .value ∨ detectP b e = some .categorical := by
  cases ht : detectP b e with
  | none =>
    rw [ht] at h
    cases h
  | some t =>
    cases t with
    | ignore =>
      rw [(ignore_spec ht).2] at h
      cases h
    | categorical => exact .inr rfl
    | value => exact .inl rfl

theorem columnIssues_eq (O : Oracle) (rs : List (Str × List Str)) (allRefCols : List Str) (c : Col)
    (h : Good c.entry (detectP false c.entry)) :
    columnIssues .fixed O rs allRefCols c = .ok (columnIssuesP O rs allRefCols c) := by
  unfold columnIssues columnIssuesP
  simp only [detect_eq, hedStrings_good h]
  rw [mapE_ok (fun ks => entryIssuesP O rs (allRefCols.contains c.name) (detectP false c.entry) c.name
      (keyCtx (stringsP c.entry (detectP false c.entry)) ks.1) ks.2)]
  intro ks hks
  exact entryIssues_eq (strings_type hks)

def columnRefsP (cols : List Col) : List Str :=
  (cols.map fun c => if c.ctype == some .ignore then [] else stringsP c.entry c.ctype).flatMap
    fun strs => strs.flatMap fun ks => findRefs ks.2

theorem columnRefs_eq (cols : List Col) (h : ∀ c ∈ cols, Good c.entry c.ctype) :
    columnRefs .fixed cols = .ok (columnRefsP cols) := by
  unfold columnRefs columnRefsP
  rw [mapE_ok (fun c : Col => if c.ctype == some .ignore then [] else stringsP c.entry c.ctype)]
  intro c hc
  cases c
  split
  · rfl
  · exact hedStrings_good (h _ hc)

def refsStringsP (cols : List Col) : List (Str × List Str) :=
  let rs := cols.map fun c => (c.name, (stringsP c.entry c.ctype).map (·.2))
  if (lookup HED rs).isSome then rs else rs ++ [(HED, [NA])]

theorem refsStrings_eq (cols : List Col) (h : ∀ c ∈ cols, Good c.entry c.ctype) :
    refsStringsOf .fixed cols = .ok (refsStringsP cols) := by
  unfold refsStringsOf refsStringsP
  rw [mapE_ok (fun c : Col => (c.name, (stringsP c.entry c.ctype).map (·.2)))]
  intro c hc
  cases c
  simp only [hedStrings_good (h _ hc)]

def loadP : Json → List Issue × List (Str × Json)
  | .obj kvs => ([], kvs)
  | _ => ([mk .wrongType none none], [])

theorem load_eq (doc : Json) : load .fixed doc = .ok (loadP doc) := by
  cases doc <;> rfl

/-- the structure and reference issues (computed before the early exit) -/
def earlyP (doc : Json) : List Issue :=
  structureP (loadP doc).1 (loadP doc).2 ++ refIssuesP (colsP (loadP doc).2)

/-- `Sidecar(..).validate(schema)` without the `Except` steps -/
def validateP (O : Oracle) (doc : Json) : List Issue :=
  let cols := colsP (loadP doc).2
  if anyError (earlyP doc) then earlyP doc
  else earlyP doc ++ O.defIssues ++ cols.flatMap (columnIssuesP O (refsStringsP cols) (columnRefsP cols))

theorem good_cols (src : List (Str × Json)) : ∀ c ∈ colsP src, Good c.entry c.ctype := by
  intro c hc
  simp only [colsP, List.mem_map] at hc
  obtain ⟨ne, _, rfl⟩ := hc
  exact good_basic _

theorem mem_categoryIssues {n : Str} {kvs vs : List (Str × Json)} {kv : Str × Json} {i : Issue}
    (hr : reservedColumn n = false) (hl : lookup HED kvs = some (.obj vs)) (hkv : kv ∈ vs) (hi : i ∈ categoryIssue n kv) :
    i ∈ columnStructureP (n, .obj kvs) := by
  simp only [columnStructureP, hr, detectP, hl, Bool.false_and, Bool.false_eq_true, ↓reduceIte, List.mem_append,
    List.mem_flatMap]
  exact Or.inr ⟨kv, hkv, hi⟩

/-- the step `validate_eq` turns on: past the early exit the columns are typed again without the basic checks, so a category
map with a non-string value would reach `pd.Series` (`Exn.unmodelled`); but `categoryIssue` makes it an error before -/
theorem good_raw (ne : Str × Json) (h : ∀ i ∈ columnStructureP ne, i.isError = false) :
    Good ne.2 (detectP false ne.2) := by
  obtain ⟨n, e⟩ := ne
  cases hr : reservedColumn n with
  | true =>
    exact nomatch (mk_isError ..).symm.trans (h (mk .hedUsedColumn (some n) none) (by simp [columnStructureP, hr]))
  | false =>
    cases e with
    | obj kvs =>
      cases hl : lookup HED kvs with
      | none => exact .inr (by simp only [hl])
      | some v =>
        cases v with
        | obj vs =>
          refine .inr ?_
          simp only [hl, List.all_eq_true]
          intro kv hkv
          cases hs : isStr kv.2 with
          | true => rfl
          | false =>
            have hi : mk (if truthy kv.2 then .wrongType else .blank) (some n) (some kv.1) ∈ categoryIssue n kv := by
              cases ht : truthy kv.2 <;> simp [categoryIssue, ht, hs]
            exact nomatch (mk_isError ..).symm.trans (h _ (mem_categoryIssues hr hl hkv hi))
        | str s => exact .inr (by simp only [hl])
        | _ => exact .inl (by simp only [detectP, hl])
    | _ => exact .inr trivial

theorem validate_eq (O : Oracle) (doc : Json) : validate .fixed O doc = .ok (validateP O doc) := by
  unfold validate validateP earlyP
  simp only [load_eq, structure_eq, columnData_eq, refIssues_eq _ (good_cols _)]
  split
  · rfl
  · rename_i hne
    simp only [columnRefs_eq _ (good_cols _), refsStrings_eq _ (good_cols _)]
    rw [mapE_ok (columnIssuesP O (refsStringsP (colsP (loadP doc).2)) (columnRefsP (colsP (loadP doc).2)))]
    · simp [List.flatMap_def]
    · intro c hc
      apply columnIssues_eq
      simp only [colsP, List.mem_map] at hc
      obtain ⟨ne, hne', rfl⟩ := hc
      apply good_raw
      refine fun i hi => Bool.eq_false_iff.mpr fun hie => hne ?_
      simp only [anyError, List.any_append, structureP, Bool.or_eq_true, List.any_eq_true]
      exact Or.inl (Or.inr ⟨i, List.mem_flatMap.mpr ⟨ne, hne', hi⟩, hie⟩)

/-- **Totality** (fixed tree): validating any JSON value returns a list of issues; no modelled step raises. -/
theorem total (O : Oracle) (doc : Json) : ∃ issues, validate .fixed O doc = .ok issues :=
  ⟨_, validate_eq O doc⟩


/-! ## without the guards validation raises (counter-examples to totality) -/

instance : DecidableEq (Except Exn (List Issue)) := fun a b =>
  match a, b with
  | .ok x, .ok y => if h : x = y then isTrue (by rw [h]) else isFalse (by intro e; cases e; exact h rfl)
  | .error x, .error y => if h : x = y then isTrue (by rw [h]) else isFalse (by intro e; cases e; exact h rfl)
  | .ok _, .error _ => isFalse (by intro e; cases e)
  | .error _, .ok _ => isFalse (by intro e; cases e)

/-- a string layer that never complains -/
def quiet : Oracle := { basic := fun _ => [], full := fun _ => [], defCount := fun _ => 0, defIssues := [] }

/-- `{"T": "r"}` (e.g. `{"TaskName": "rest"}`): `'str' object has no attribute 'get'` -/
theorem unfixed_raises_nondict_entry :
    validate .unfixed quiet (.obj [(['T'], .str ['r'])]) = .error .attributeError := by decide +kernel
/-- `{"a": null}` -/
theorem unfixed_raises_null_entry :
    validate .unfixed quiet (.obj [(['a'], .null)]) = .error .attributeError := by decide +kernel
/-- `[1, 2]` -/
theorem unfixed_raises_list_top :
    validate .unfixed quiet (.arr [.num 1, .num 2]) = .error .typeError := by decide +kernel
/-- `"x"` -/
theorem unfixed_raises_string_top :
    validate .unfixed quiet (.str ['x']) = .error .valueError := by decide +kernel
/-- `{"o": {"HED": "{c}"}}` (e.g. `{"onset": {"HED": "{col1}"}}`): `KeyError` in `refs_strings[key]` -/
theorem unfixed_raises_unknown_ref :
    validate .unfixed quiet (.obj [(['o'], .obj [(HED, .str ['{', 'c', '}'])])]) = .error .keyError := by decide +kernel

/-- a string layer that resolves the tags spelled `D…` to `Def-expand` and is otherwise quiet -/
def quietD : Oracle := { quiet with isDefExpand := fun t => t.head? == some 'D' }

/-- `{"a": {"HED": {"x": "(D,D)"}}}` (e.g. `"(Def-expand/A, Def-expand/B)"`): `shrink_defs` looks for the group a second
time after replacing it: `KeyError` out of `_validate_pound_sign_count` -/
theorem unfixed_raises_two_def_expand :
    validate { Guards.fixed with shrink := false } quietD
      (.obj [(['a'], .obj [(HED, .obj [(['x'], .str ['(', 'D', ',', 'D', ')'])])])]) = .error .keyError := by decide +kernel

example : validate .fixed quietD (.obj [(['a'], .obj [(HED, .obj [(['x'], .str ['(', 'D', ',', 'D', ')'])])])]) = .ok [] := by
  decide +kernel

/- with the guards the same documents are answered: no issue for the first, issues for the others -/
example : validate .fixed quiet (.obj [(['T'], .str ['r'])]) = .ok [] := by decide +kernel
example : validate .fixed quiet (.arr [.num 1, .num 2]) = .ok [mk .wrongType none none] := by decide +kernel
example : validate .fixed quiet (.obj [(['o'], .obj [(HED, .str ['{', 'c', '}'])])])
    = .ok [mk .poundValue (some ['o']) none, mk .invalidRef (some ['o']) none] := by decide +kernel

def isBrace (c : Char) : Bool := c == '{' || c == '}'

/-- `n` well-formed references, seen through their braces only -/
def pairs : Nat → List Char
  | 0 => []
  | n + 1 => '{' :: '}' :: pairs n

theorem pairs_cons (c : Char) (t : List Char) : (∃ n, c :: t = pairs n) ↔ c = '{' ∧ ∃ n, t = '}' :: pairs n := by
  constructor
  · rintro ⟨n, h⟩
    cases n with
    | zero => cases h
    | succ n => cases h; exact ⟨rfl, n, rfl⟩
  · rintro ⟨rfl, n, rfl⟩
    exact ⟨n + 1, rfl⟩

theorem bracesGo_iff (op : Option Nat) (i : Nat) (s : Str) :
    bracesGo op i s = [] ↔ ∃ n, (op.elim [] fun _ => ['{']) ++ s.filter isBrace = pairs n := by
  fun_induction bracesGo op i s with
  | case1 k => simp [pairs_cons]
  | case2 => exact iff_of_true rfl ⟨0, rfl⟩
  | case3 i c cs h k _ => simp [pairs_cons, isBrace, beq_iff_eq.mp h]
  | case4 i c cs h ih => simpa [isBrace, beq_iff_eq.mp h] using ih
  | case5 i c cs _ h k ih => simpa [isBrace, beq_iff_eq.mp h, pairs_cons] using ih
  | case6 i c cs _ h _ => simp [isBrace, beq_iff_eq.mp h, pairs_cons]
  | case7 op i c cs h1 h2 ih => simpa [isBrace, h1, h2] using ih

/-- **Braces**: `_find_non_matching_braces` reports nothing exactly when, reading only the braces of the string, they
are `{}` repeated: every `{` is closed by the next brace, and no `}` comes without its `{`. -/
theorem braces_iff (s : Str) : braces s = [] ↔ ∃ n, s.filter isBrace = pairs n :=
  bracesGo_iff none 0 s

example : braces ['R', ',', '{', 'a', '}', '{', 'b', '}'] = [] := by decide +kernel
example : braces ['{', '{', 'a', '}', '}', '{'] = [0, 4, 5] := by decide +kernel


/-! ## each structural fault is flagged

The conclusions have the form `mk k col key ∈ validateP O doc`: an issue of internal kind `k` in the context
`(column, key)`; `codes` gives the published code of `k` and its error severity. -/

/-- published code of each kind (against the table extracted from error_messages.py); all are errors -/
theorem codes :
    Kind.code .hedUsedColumn = ['S', 'I', 'D', 'E', 'C', 'A', 'R', '_', 'I', 'N', 'V', 'A', 'L', 'I', 'D']
    ∧ Kind.code .unknownType = ['s', 'i', 'd', 'e', 'c', 'a', 'r', 'U', 'n', 'k', 'n', 'o', 'w', 'n', 'C', 'o', 'l', 'u', 'm', 'n']
    ∧ Kind.code .hedUsed = ['S', 'I', 'D', 'E', 'C', 'A', 'R', '_', 'I', 'N', 'V', 'A', 'L', 'I', 'D']
    ∧ Kind.code .blank = ['b', 'l', 'a', 'n', 'k', 'V', 'a', 'l', 'u', 'e', 'S', 't', 'r', 'i', 'n', 'g']
    ∧ Kind.code .wrongType = ['w', 'r', 'o', 'n', 'g', 'H', 'e', 'd', 'D', 'a', 't', 'a', 'T', 'y', 'p', 'e']
    ∧ Kind.code .naUsed = ['S', 'I', 'D', 'E', 'C', 'A', 'R', '_', 'I', 'N', 'V', 'A', 'L', 'I', 'D']
    ∧ Kind.code .malformedRef = ['S', 'I', 'D', 'E', 'C', 'A', 'R', '_', 'B', 'R', 'A', 'C', 'E', 'S', '_', 'I', 'N', 'V', 'A', 'L', 'I', 'D']
    ∧ Kind.code .invalidRef = ['S', 'I', 'D', 'E', 'C', 'A', 'R', '_', 'B', 'R', 'A', 'C', 'E', 'S', '_', 'I', 'N', 'V', 'A', 'L', 'I', 'D']
    ∧ Kind.code .selfRef = ['S', 'I', 'D', 'E', 'C', 'A', 'R', '_', 'B', 'R', 'A', 'C', 'E', 'S', '_', 'I', 'N', 'V', 'A', 'L', 'I', 'D']
    ∧ Kind.code .nestedRef = ['S', 'I', 'D', 'E', 'C', 'A', 'R', '_', 'B', 'R', 'A', 'C', 'E', 'S', '_', 'I', 'N', 'V', 'A', 'L', 'I', 'D']
    ∧ Kind.code .poundValue = ['P', 'L', 'A', 'C', 'E', 'H', 'O', 'L', 'D', 'E', 'R', '_', 'I', 'N', 'V', 'A', 'L', 'I', 'D']
    ∧ Kind.code .poundCategory = ['P', 'L', 'A', 'C', 'E', 'H', 'O', 'L', 'D', 'E', 'R', '_', 'I', 'N', 'V', 'A', 'L', 'I', 'D']
    ∧ (∀ k col key, (mk k col key).isError = true ∧ (mk k col key).code = k.code ∧ (mk k col key).col = col ∧ (mk k col key).key = key)
    ∧ reservedColumn HED = true ∧ reservedCategory NA = true := by
  refine ⟨by decide +kernel, by decide +kernel, by decide +kernel, by decide +kernel, by decide +kernel, by decide +kernel, by decide +kernel, by decide +kernel, by decide +kernel, by decide +kernel, by decide +kernel, by decide +kernel, fun k col key => ⟨mk_isError k col key, rfl, rfl, rfl⟩, by decide +kernel, by decide +kernel⟩

theorem mem_early {O : Oracle} {doc : Json} {i : Issue} (h : i ∈ earlyP doc) : i ∈ validateP O doc := by
  unfold validateP
  split
  · exact h
  · simp [h]

theorem mem_structure {cols : List (Str × Json)} {ne : Str × Json} {i : Issue} (hm : ne ∈ cols)
    (hi : i ∈ columnStructureP ne) : i ∈ earlyP (.obj cols) := by
  simp only [earlyP, loadP, structureP, List.nil_append, List.mem_append, List.mem_flatMap]
  exact Or.inl ⟨ne, hm, hi⟩

/-- **Top level**: a document that is not a JSON object is reported (`wrongHedDataType`), whatever it is. -/
theorem fault_top_level (O : Oracle) (doc : Json) (h : isDict doc = false) :
    validateP O doc = [mk .wrongType none none] := by
  cases doc with
  | obj kvs => cases h
  | _ => rfl

/-- **Reserved column name**: a column called `HED` is flagged (`SIDECAR_INVALID`). -/
theorem fault_hed_column (O : Oracle) (cols : List (Str × Json)) (n : Str) (e : Json) (hm : (n, e) ∈ cols)
    (hr : reservedColumn n = true) : mk .hedUsedColumn (some n) none ∈ validateP O (.obj cols) := by
  apply mem_early; apply mem_structure hm
  simp [columnStructureP, hr]

/-- **HED entry of the wrong type**: `"HED": v` with `v` neither a string nor a map is flagged (`sidecarUnknownColumn`). -/
theorem fault_unknown_type (O : Oracle) (cols : List (Str × Json)) (n : Str) (kvs : List (Str × Json)) (v : Json)
    (hm : (n, .obj kvs) ∈ cols) (hr : reservedColumn n = false) (hl : lookup HED kvs = some v)
    (h1 : isStr v = false) (h2 : isDict v = false) : mk .unknownType (some n) none ∈ validateP O (.obj cols) := by
  apply mem_early; apply mem_structure hm
  cases v <;> simp_all [columnStructureP, detectP, isStr, isDict]

/-- **HED inside an ignored column**: an entry without a top-level `HED` key that contains the key `HED` anywhere below is
flagged (`SIDECAR_INVALID`). -/
theorem fault_hed_nested (O : Oracle) (cols : List (Str × Json)) (n : Str) (e : Json) (hm : (n, e) ∈ cols)
    (hr : reservedColumn n = false) (hi : detectP false e = some .ignore) (hk : hasKey HED e = true) :
    mk .hedUsed (some n) none ∈ validateP O (.obj cols) := by
  apply mem_early; apply mem_structure hm
  simp [columnStructureP, hr, hi, hk]

/-- **Empty category map**: `"HED": {}` is flagged (`blankValueString`). -/
theorem fault_blank_dict (O : Oracle) (cols : List (Str × Json)) (n : Str) (kvs : List (Str × Json))
    (hm : (n, .obj kvs) ∈ cols) (hr : reservedColumn n = false) (hl : lookup HED kvs = some (.obj [])) :
    mk .blank (some n) none ∈ validateP O (.obj cols) := by
  apply mem_early; apply mem_structure hm
  simp [columnStructureP, hr, detectP, hl]

theorem mem_category {cols : List (Str × Json)} {n : Str} {kvs vs : List (Str × Json)} {kv : Str × Json} {i : Issue}
    (hm : (n, .obj kvs) ∈ cols) (hr : reservedColumn n = false) (hl : lookup HED kvs = some (.obj vs))
    (hkv : kv ∈ vs) (hi : i ∈ categoryIssue n kv) : i ∈ earlyP (.obj cols) :=
  mem_structure hm (mem_categoryIssues hr hl hkv hi)

/-- **Blank category value**: a category whose value is falsy (`""`, `null`, `0`, `false`, `[]`, `{}`) is flagged
(`blankValueString`) with its key. -/
theorem fault_blank_value (O : Oracle) (cols : List (Str × Json)) (n : Str) (kvs vs : List (Str × Json)) (k : Str) (v : Json)
    (hm : (n, .obj kvs) ∈ cols) (hr : reservedColumn n = false) (hl : lookup HED kvs = some (.obj vs))
    (hkv : (k, v) ∈ vs) (hv : truthy v = false) : mk .blank (some n) (some k) ∈ validateP O (.obj cols) := by
  apply mem_early; apply mem_category hm hr hl hkv
  simp [categoryIssue, hv]

/-- **Non-string category value**: a truthy value that is not a string is flagged (`wrongHedDataType`) with its key. -/
theorem fault_wrong_type (O : Oracle) (cols : List (Str × Json)) (n : Str) (kvs vs : List (Str × Json)) (k : Str) (v : Json)
    (hm : (n, .obj kvs) ∈ cols) (hr : reservedColumn n = false) (hl : lookup HED kvs = some (.obj vs))
    (hkv : (k, v) ∈ vs) (hv : truthy v = true) (hs : isStr v = false) :
    mk .wrongType (some n) (some k) ∈ validateP O (.obj cols) := by
  apply mem_early; apply mem_category hm hr hl hkv
  simp [categoryIssue, hv, hs]

/-- **`n/a` as a category key** is flagged (`SIDECAR_INVALID`) with its key. -/
theorem fault_na_key (O : Oracle) (cols : List (Str × Json)) (n : Str) (kvs vs : List (Str × Json)) (k s : Str)
    (hm : (n, .obj kvs) ∈ cols) (hr : reservedColumn n = false) (hl : lookup HED kvs = some (.obj vs))
    (hkv : (k, .str s) ∈ vs) (hs : s ≠ []) (hk : reservedCategory k = true) :
    mk .naUsed (some n) (some k) ∈ validateP O (.obj cols) := by
  apply mem_early; apply mem_category hm hr hl hkv
  cases s with
  | nil => exact absurd rfl hs
  | cons c cs => simp [categoryIssue, truthy, isStr, hk]

/-- the entry strings that `_validate_refs` screens: those of columns whose kind is confirmed (a value column needs its
`#`, a categorical column only strings) -/
def screened (e : Json) : List (Str × Str) := stringsP e (detectP true e)

theorem mem_colRefs {cols : List (Str × Json)} {n : Str} {e : Json} {i : Issue} (hm : (n, e) ∈ cols)
    (hi : i ∈ (colRefsP (possibleRefs (colsP cols)) ⟨n, e, detectP true e⟩).2.2) : i ∈ earlyP (.obj cols) := by
  simp only [earlyP, loadP, refIssuesP, List.mem_append, List.mem_flatMap, List.mem_map]
  exact Or.inr (Or.inl ⟨_, ⟨⟨n, e, detectP true e⟩, List.mem_map_of_mem hm, rfl⟩, hi⟩)

theorem mem_stringRefs {cols : List (Str × Json)} {n : Str} {e : Json} {k s : Str} {i : Issue} (hm : (n, e) ∈ cols)
    (hs : (k, s) ∈ screened e) (hi : i ∈ stringRefIssues (possibleRefs (colsP cols)) n (keyCtx (screened e) k) s) :
    i ∈ earlyP (.obj cols) :=
  mem_colRefs hm (List.mem_append_left _ (List.mem_flatMap.mpr ⟨(k, s), hs, hi⟩))

/-- **Unbalanced braces** in a screened entry are flagged (`SIDECAR_BRACES_INVALID`). -/
theorem fault_braces (O : Oracle) (cols : List (Str × Json)) (n : Str) (e : Json) (k s : Str) (hm : (n, e) ∈ cols)
    (hs : (k, s) ∈ screened e) (hb : braces s ≠ []) :
    mk .malformedRef (some n) (keyCtx (screened e) k) ∈ validateP O (.obj cols) := by
  obtain ⟨a, ha⟩ := List.exists_mem_of_ne_nil _ hb
  exact mem_early (mem_stringRefs hm hs (List.mem_append_left _ (List.mem_map_of_mem ha)))

/-- **Unknown reference**: `{r}` in a screened entry with `r` neither `HED` nor a HED-bearing column is flagged
(`SIDECAR_BRACES_INVALID`). -/
theorem fault_unknown_ref (O : Oracle) (cols : List (Str × Json)) (n : Str) (e : Json) (k s r : Str) (hm : (n, e) ∈ cols)
    (hs : (k, s) ∈ screened e) (hr : r ∈ findRefs s) (hu : (possibleRefs (colsP cols)).contains r = false) :
    mk .invalidRef (some n) (keyCtx (screened e) k) ∈ validateP O (.obj cols) :=
  mem_early (mem_stringRefs hm hs (List.mem_append_right _
    (List.mem_map_of_mem (a := r) (List.mem_filter.mpr ⟨hr, by rw [hu]; rfl⟩))))

/-- **Self reference**: a screened entry of column `n` containing `{n}` is flagged (`SIDECAR_BRACES_INVALID`). -/
theorem fault_self_ref (O : Oracle) (cols : List (Str × Json)) (n : Str) (e : Json) (k s : Str) (hm : (n, e) ∈ cols)
    (hs : (k, s) ∈ screened e) (hr : n ∈ findRefs s) : mk .selfRef none none ∈ validateP O (.obj cols) := by
  apply mem_early; apply mem_colRefs hm
  simp only [colRefsP, List.mem_append]
  right
  have hs : (k, s) ∈ stringsP e (detectP true e) := hs
  rw [if_pos (List.contains_iff_mem.mpr (List.mem_flatMap.mpr ⟨(k, s), hs, hr⟩))]
  exact List.mem_singleton.mpr rfl

/-- **Nested reference**: column `n` refers to another column `r` that itself contains a reference: flagged
(`SIDECAR_BRACES_INVALID`). -/
theorem fault_nested_ref (O : Oracle) (cols : List (Str × Json)) (n r : Str) (e e' : Json) (k s k' s' r' : Str)
    (hm : (n, e) ∈ cols) (hs : (k, s) ∈ screened e) (hr : r ∈ findRefs s) (hne : r ≠ n)
    (hm' : (r, e') ∈ cols) (hs' : (k', s') ∈ screened e') (hr' : r' ∈ findRefs s') :
    mk .nestedRef none none ∈ validateP O (.obj cols) := by
  apply mem_early
  simp only [earlyP, loadP, refIssuesP, List.mem_append]
  refine Or.inr (Or.inr ?_)
  -- membership in `found_column_references`
  have hfound : ∀ {m x k s r}, (m, x) ∈ cols → (k, s) ∈ screened x → r ∈ findRefs s →
      ∃ p ∈ ((colsP cols).map (colRefsP (possibleRefs (colsP cols)))).filter (fun p => !p.2.1.isEmpty),
        p.1 = m ∧ r ∈ p.2.1 := by
    intro m x k s r hx hs hr
    have hr' : r ∈ (colRefsP (possibleRefs (colsP cols)) ⟨m, x, detectP true x⟩).2.1 :=
      List.mem_flatMap.mpr ⟨(k, s), hs, hr⟩
    refine ⟨_, List.mem_filter.mpr ⟨List.mem_map_of_mem (List.mem_map_of_mem
      (f := fun ne => (⟨ne.1, ne.2, detectP true ne.2⟩ : Col)) hx), ?_⟩, rfl, hr'⟩
    rw [Bool.not_eq_true', List.isEmpty_eq_false_iff]
    exact List.ne_nil_of_mem hr'
  obtain ⟨p, hp, rfl, hrp⟩ := hfound hm hs hr
  obtain ⟨q, hq, rfl, -⟩ := hfound hm' hs' hr'
  simp only [nestedIssues, List.mem_flatMap]
  refine ⟨p, hp, List.mem_map_of_mem (a := q.1) (List.mem_filter.mpr ⟨hrp, ?_⟩)⟩
  simp only [Bool.and_eq_true, List.any_eq_true, bne_iff_ne, ne_eq, beq_iff_eq]
  exact ⟨⟨q, hq, rfl⟩, hne⟩

theorem mem_loop {O : Oracle} {cols : List (Str × Json)} {n : Str} {e : Json} {i : Issue}
    (hne : anyError (earlyP (.obj cols)) = false) (hm : (n, e) ∈ cols)
    (hi : i ∈ columnIssuesP O (refsStringsP (colsP cols)) (columnRefsP (colsP cols)) ⟨n, e, detectP true e⟩) :
    i ∈ validateP O (.obj cols) := by
  unfold validateP
  rw [if_neg (by simp [hne])]
  simp only [loadP, List.mem_append, List.mem_flatMap]
  exact Or.inr ⟨⟨n, e, detectP true e⟩, List.mem_map_of_mem hm, hi⟩

/-- **Value column without exactly one `#`** (nothing else wrong, no definition in the entry): flagged
(`PLACEHOLDER_INVALID`). -/
theorem fault_pound_value (O : Oracle) (cols : List (Str × Json)) (n : Str) (kvs : List (Str × Json)) (s : Str)
    (hne : anyError (earlyP (.obj cols)) = false) (hm : (n, .obj kvs) ∈ cols) (hl : lookup HED kvs = some (.str s))
    (hc : treeHash O s ≠ 1) (hd : O.defCount s = 0) : mk .poundValue (some n) none ∈ validateP O (.obj cols) := by
  apply mem_loop hne hm
  simp [columnIssuesP, detectP, hl, stringsP, entryIssuesP, hd, poundCountP, keyCtx, hc]

/-- **Category entry containing `#`** (nothing else wrong, no definition in the entry): flagged (`PLACEHOLDER_INVALID`). -/
theorem fault_pound_category (O : Oracle) (cols : List (Str × Json)) (n : Str) (kvs vs : List (Str × Json)) (k s : Str)
    (hne : anyError (earlyP (.obj cols)) = false) (hm : (n, .obj kvs) ∈ cols) (hl : lookup HED kvs = some (.obj vs))
    (hkv : (k, .str s) ∈ vs) (hc : treeHash O s ≠ 0) (hd : O.defCount s = 0) :
    mk .poundCategory (some n) (keyCtx (vs.filterMap strOf) k) ∈ validateP O (.obj cols) := by
  apply mem_loop hne hm
  have hks : (k, s) ∈ vs.filterMap strOf := List.mem_filterMap.mpr ⟨(k, .str s), hkv, rfl⟩
  simp only [columnIssuesP, detectP, hl, stringsP, Bool.false_and, Bool.false_eq_true, ↓reduceIte, List.mem_append,
    List.mem_flatMap, List.mem_map]
  refine Or.inl ⟨_, ⟨(k, s), hks, rfl⟩, ?_⟩
  simp [entryIssuesP, hd, poundCountP, hc]

/-- an entry with unbalanced parentheses has an empty tree: nothing is printed, no `#` is counted -/
theorem treeHash_unbalanced (O : Oracle) (s : Str) (e : Tree.BuildErr) (h : Tree.build s = .error e) : treeHash O s = 0 := by
  simp [treeHash, entryTree, Tree.construct, h, dropList, hashList]

/-- **Value column with unbalanced parentheses** (nothing else wrong at the sidecar level): besides what the string layer
says about the parentheses, the sidecar layer reports `PLACEHOLDER_INVALID` — whatever the number of `#` written. -/
theorem fault_pound_unbalanced (O : Oracle) (cols : List (Str × Json)) (n : Str) (kvs : List (Str × Json)) (s : Str)
    (e : Tree.BuildErr) (hne : anyError (earlyP (.obj cols)) = false) (hm : (n, .obj kvs) ∈ cols)
    (hl : lookup HED kvs = some (.str s)) (hb : Tree.build s = .error e) (hd : O.defCount s = 0) :
    mk .poundValue (some n) none ∈ validateP O (.obj cols) :=
  fault_pound_value O cols n kvs s hne hm hl (by rw [treeHash_unbalanced O s e hb]; decide) hd

/- the count is made on the tree: `{#}` is a reference tag and is removed; `(D/#,(L/#))` shrinks to `D/#`;
   `(L/#` has no tree -/
example : treeHash quiet ['{', '#', '}'] = 0 ∧ countHash ['{', '#', '}'] = 1 := by decide +kernel
example : treeHash quietD ['(', 'D', '/', '#', ',', '(', 'L', '/', '#', ')', ')'] = 1 := by decide +kernel
example : treeHash quiet ['(', 'L', '/', '#'] = 0 := by decide +kernel
example : treeHash quiet ['(', '{', 'a', '}', ')', ',', 'L', '/', '#'] = 1
    ∧ (entryTree ['(', '{', 'a', '}', ')', ',', 'L', '/', '#']).length = 1 := by decide +kernel

/-! ## a well-formed sidecar with valid entries has no error -/

/-- The structural rules of the property for the entry `e` of column `n` of the sidecar `cols`. -/
structure EntryOK (O : Oracle) (cols : List (Str × Json)) (n : Str) (e : Json) : Prop where
  /-- `HED` is not used as a column name -/
  name : reservedColumn n = false
  /-- no HED at all (and no `HED` key below), or a value string with exactly one `#`, or a non-empty map of non-empty
  strings without `#` whose keys are not `n/a`; the `#` rule does not apply to an entry that declares definitions -/
  shape : (detectP false e = some .ignore ∧ hasKey HED e = false)
    ∨ (∃ kvs s, e = .obj kvs ∧ lookup HED kvs = some (.str s) ∧ countHash s ≠ 0 ∧ (O.defCount s = 0 → treeHash O s = 1))
    ∨ (∃ kvs vs, e = .obj kvs ∧ lookup HED kvs = some (.obj vs) ∧ vs ≠ [] ∧
        ∀ kv ∈ vs, ∃ s, kv.2 = .str s ∧ s ≠ [] ∧ reservedCategory kv.1 = false ∧ (O.defCount s = 0 → treeHash O s = 0))
  /-- braces are balanced; references name `HED` or a column that bears HED, not the column itself, and the column
  referred to contains no reference -/
  refs : ∀ ks ∈ screened e, braces ks.2 = [] ∧ ∀ r ∈ findRefs ks.2,
    (r = HED ∨ ∃ e', (r, e') ∈ cols ∧ detectP true e' ≠ some .ignore) ∧ r ≠ n ∧
    ∀ e', (r, e') ∈ cols → ∀ ks' ∈ screened e', findRefs ks'.2 = []

/-- The string layer finds no error: in the entries of the sidecar, in any assembled string it is asked about, and among
the definition issues; a column declares definitions in all of its entries or in none. -/
structure OracleOK (O : Oracle) (cols : List (Str × Json)) : Prop where
  basic : ∀ ne ∈ cols, ∀ ks ∈ stringsP ne.2 (detectP false ne.2), ∀ c ∈ O.basic ks.2, C08.sevWarning ≤ c.2
  uniform : ∀ ne ∈ cols, (∀ ks ∈ stringsP ne.2 (detectP false ne.2), O.defCount ks.2 = 0) ∨
    (∀ ks ∈ stringsP ne.2 (detectP false ne.2), O.defCount ks.2 ≠ 0)
  full : ∀ t, ∀ c ∈ O.full t, C08.sevWarning ≤ c.2
  defs : ∀ i ∈ O.defIssues, i.isError = false

theorem wf_shape {O : Oracle} {cols : List (Str × Json)} {n : Str} {e : Json} (h : EntryOK O cols n e) :
    ∃ t, (∀ b, detectP b e = some t) ∧ columnStructureP (n, e) = [] ∧
      ∀ ks ∈ stringsP e (some t), O.defCount ks.2 = 0 → ∀ col key, poundCountP O (some t) ks.2 col key = [] := by
  rcases h.shape with ⟨hi, hk⟩ | ⟨kvs, s, rfl, hl, hc, hcnt⟩ | ⟨kvs, vs, rfl, hl, hne, hall⟩
  · refine ⟨.ignore, (ignore_spec hi).1, by simp [columnStructureP, h.name, hi, hk], fun ks hks => ?_⟩
    rw [(ignore_spec hi).2] at hks
    cases hks
  · refine ⟨.value, fun b => by simp [detectP, hl, hc], by simp [columnStructureP, h.name, detectP, hl], ?_⟩
    intro ks hks hd col key
    simp only [stringsP, hl, List.mem_singleton] at hks
    subst hks
    simp [poundCountP, hcnt hd]
  · have hstr : vs.all (fun kv => isStr kv.2) = true := by
      rw [List.all_eq_true]
      intro kv hkv
      obtain ⟨s, hs, _⟩ := hall kv hkv
      rw [hs]
      rfl
    refine ⟨.categorical, fun b => by simp [detectP, hl, hstr], ?_, ?_⟩
    · simp only [columnStructureP, h.name, detectP, hl, Bool.false_eq_true, ↓reduceIte, Bool.false_and,
        List.isEmpty_eq_false_iff.mpr hne, List.nil_append, List.flatMap_eq_nil_iff]
      intro kv hkv
      obtain ⟨s, hs, hs', hk, _⟩ := hall kv hkv
      cases s with
      | nil => exact absurd rfl hs'
      | cons c cs => simp [categoryIssue, hs, truthy, isStr, hk]
    · intro ks hks hd col key
      simp only [stringsP, hl, List.mem_filterMap] at hks
      obtain ⟨kv, hkv, hso⟩ := hks
      obtain ⟨s, hs, _, _, hcnt⟩ := hall kv hkv
      simp only [strOf, hs, Option.some.injEq] at hso
      subst hso
      simp [poundCountP, hcnt hd]

theorem possible_iff {cols : List (Str × Json)} {r : Str} :
    r ∈ possibleRefs (colsP cols) ↔ (r = HED ∨ ∃ e', (r, e') ∈ cols ∧ detectP true e' ≠ some .ignore) := by
  have hp : r ∈ ((colsP cols).filter (fun c => c.ctype != some .ignore)).map (·.name) ↔
      ∃ e', (r, e') ∈ cols ∧ detectP true e' ≠ some .ignore := by
    simp only [colsP, List.mem_map, List.mem_filter, bne_iff_ne, ne_eq]
    constructor
    · rintro ⟨c, ⟨⟨ne, hne, rfl⟩, ht⟩, rfl⟩; exact ⟨ne.2, hne, ht⟩
    · rintro ⟨e', hm, ht⟩; exact ⟨⟨r, e', detectP true e'⟩, ⟨⟨(r, e'), hm, rfl⟩, ht⟩, rfl⟩
  simp only [possibleRefs]
  split
  · rename_i hc
    rw [hp]
    exact ⟨Or.inr, fun h => h.elim (fun e => hp.mp (e ▸ List.contains_iff_mem.mp hc)) id⟩
  · rw [List.mem_append, hp, List.mem_singleton, or_comm]

theorem wf_colRefs {O : Oracle} {cols : List (Str × Json)} {n : Str} {e : Json} (h : EntryOK O cols n e) :
    (colRefsP (possibleRefs (colsP cols)) ⟨n, e, detectP true e⟩).2.2 = [] := by
  simp only [colRefsP, List.append_eq_nil_iff, List.flatMap_eq_nil_iff]
  refine ⟨?_, ?_⟩
  · intro ks hks
    obtain ⟨hb, hr⟩ := h.refs ks hks
    simp only [stringRefIssues, hb, List.map_nil, List.nil_append, List.map_eq_nil_iff, List.filter_eq_nil_iff]
    exact fun r hr' => by simp [possible_iff.mpr (hr r hr').1]
  · refine if_neg fun hc => ?_
    obtain ⟨ks, hks, hn⟩ := List.mem_flatMap.mp (List.contains_iff_mem.mp hc)
    exact ((h.refs ks hks).2 n hn).2.1 rfl

theorem wf_early {O : Oracle} {cols : List (Str × Json)} (h : ∀ ne ∈ cols, EntryOK O cols ne.1 ne.2) : earlyP (.obj cols) = [] := by
  have hper : (colsP cols).map (colRefsP (possibleRefs (colsP cols))) =
      cols.map fun ne => colRefsP (possibleRefs (colsP cols)) ⟨ne.1, ne.2, detectP true ne.2⟩ := List.map_map
  simp only [earlyP, loadP, structureP, refIssuesP, hper, List.nil_append, List.append_eq_nil_iff, List.flatMap_eq_nil_iff,
    List.forall_mem_map]
  refine ⟨fun ne hne => let ⟨_, _, hs, _⟩ := wf_shape (h ne hne); hs, fun ne hne => wf_colRefs (h ne hne), ?_⟩
  simp only [nestedIssues, List.flatMap_eq_nil_iff, List.map_eq_nil_iff, List.filter_eq_nil_iff]
  intro p hp r hr
  obtain ⟨ne, hne, rfl⟩ := List.mem_map.mp (List.mem_filter.mp hp).1
  obtain ⟨ks, hks, hr⟩ := List.mem_flatMap.mp hr
  rw [Bool.and_eq_true, List.any_eq_true]
  rintro ⟨⟨q, hq, hqr⟩, -⟩
  obtain ⟨hq, hq'⟩ := List.mem_filter.mp hq
  obtain ⟨ne', hne', rfl⟩ := List.mem_map.mp hq
  cases beq_iff_eq.mp hqr
  have : (colRefsP (possibleRefs (colsP cols)) ⟨ne'.1, ne'.2, detectP true ne'.2⟩).2.1 = [] :=
    List.flatMap_eq_nil_iff.mpr ((((h ne hne).refs ks hks).2 _ hr).2.2 ne'.2 hne')
  rw [this] at hq'
  cases hq'

theorem ext_isError {col key : Option Str} {c : Str × Nat} (h : C08.sevWarning ≤ c.2) : (ext col key c).isError = false := by
  simp only [ext, Issue.isError]
  exact decide_eq_false (by omega)

theorem refsStringsP_key {cols : List Col} {r : Str} (h : r = HED ∨ r ∈ cols.map (·.name)) :
    (lookup r (refsStringsP cols)).isNone = false := by
  rw [Option.isNone_eq_false_iff, ← contains_keys, List.contains_iff_mem]
  simp only [refsStringsP]
  split
  · rename_i hs
    rw [← contains_keys, List.contains_iff_mem] at hs
    rw [List.map_map] at hs ⊢
    exact h.elim (fun e => e ▸ hs) id
  · rw [List.map_append, List.map_map, List.mem_append, List.map_singleton, List.mem_singleton, or_comm]
    exact h

theorem badSpot_uniform {col : Str} {l : List α} {f : α → Nat} (h : (∀ x ∈ l, f x = 0) ∨ (∀ x ∈ l, f x ≠ 0)) :
    badSpot col (l.map f) = [] := by
  unfold badSpot
  rw [List.any_map, List.any_map]
  rcases h with h | h
  · rw [List.any_eq_false.mpr fun x hx => by rw [Function.comp, h x hx]; decide, Bool.false_and]
    rfl
  · rw [show l.any ((· == 0) ∘ f) = false from List.any_eq_false.mpr fun x hx => by rw [Function.comp, beq_iff_eq]; exact h x hx,
      Bool.and_false]
    rfl

/-- **Well-formed sidecars**: if every column obeys the structural rules and the string layer finds no error in the
entries and in the strings assembled from them, validation reports no error-severity issue. -/
theorem wellformed_ok (O : Oracle) (cols : List (Str × Json)) (hwf : ∀ ne ∈ cols, EntryOK O cols ne.1 ne.2)
    (hO : OracleOK O cols) : ∀ i ∈ validateP O (.obj cols), i.isError = false := by
  have hearly := wf_early hwf
  unfold validateP
  rw [hearly]
  simp only [anyError, List.any_nil, Bool.false_eq_true, ↓reduceIte, List.nil_append, loadP, List.mem_append,
    List.mem_flatMap]
  rintro i (hi | ⟨c, hc, hi⟩)
  · exact hO.defs i hi
  · simp only [colsP, List.mem_map] at hc
    obtain ⟨ne, hne, rfl⟩ := hc
    have hw := hwf ne hne
    obtain ⟨t, ht, -, hp⟩ := wf_shape hw
    simp only [columnIssuesP, List.mem_append, List.mem_flatMap, List.mem_map] at hi
    rcases hi with ⟨_, ⟨ks, hks, rfl⟩, hi⟩ | hi
    · simp only [entryIssuesP, List.mem_append, List.mem_map] at hi
      rcases hi with (⟨c, hc, rfl⟩ | hi) | hi
      · exact ext_isError (hO.basic ne hne ks hks c hc)
      · exfalso
        cases hdc : O.defCount ks.2 == 0 with
        | false => simp only [hdc, Bool.false_eq_true, ↓reduceIte, List.not_mem_nil] at hi
        | true =>
          rw [hdc, if_pos rfl, ht false, hp ks (ht false ▸ hks) (beq_iff_eq.mp hdc)] at hi
          cases hi
      · split at hi
        · cases hi
        · have hks' : ks ∈ screened ne.2 := by
            rw [screened, ht true, ← ht false]
            exact hks
          have hunk : (findRefs ks.2).filter (fun r => (lookup r (refsStringsP (colsP cols))).isNone) = [] :=
            List.filter_eq_nil_iff.mpr fun r hr => Bool.eq_false_iff.mp <| refsStringsP_key <|
              ((hw.refs ks hks').2 r hr).1.imp_right fun ⟨e', hm, _⟩ =>
                List.mem_map.mpr ⟨⟨r, e', detectP true e'⟩, List.mem_map_of_mem hm, rfl⟩
          simp only [fullIssuesP, hunk, List.isEmpty_nil, Bool.not_true, Bool.false_eq_true, ↓reduceIte, List.mem_flatMap,
            List.mem_map] at hi
          obtain ⟨combo, _, c, hc, rfl⟩ := hi
          exact ext_isError (hO.full _ c hc)
    · simp only [List.map_map, Function.comp_def, entryIssuesP] at hi
      rw [badSpot_uniform (hO.uniform ne hne)] at hi
      cases hi

/- a sidecar whose columns satisfy `EntryOK` (`OracleOK` is not instantiated) and what validation answers on it:
   {"a": {"HED": {"x": "R", "y": "{b}"}}, "b": {"HED": "L/#"}, "c": {"Levels": 1}} -/
def exampleCols : List (Str × Json) :=
  [(['a'], .obj [(HED, .obj [(['x'], .str ['R']), (['y'], .str ['{', 'b', '}'])])]),
   (['b'], .obj [(HED, .str ['L', '/', '#'])]),
   (['c'], .obj [(['L'], .num 1)])]

example : validate .fixed quiet (.obj exampleCols) = .ok [] := by decide +kernel
example : validate .fixed { quiet with full := fun _ => [(['W'], 10)] } (.obj exampleCols)
    = .ok [⟨[], ['W'], 10, some ['a'], some ['x']⟩, ⟨[], ['W'], 10, some ['a'], some ['y']⟩] := by decide +kernel

example : screened (.obj [(HED, .obj [(['x'], .str ['R']), (['y'], .str ['{', 'b', '}'])])])
    = [(['x'], ['R']), (['y'], ['{', 'b', '}'])] := by decide +kernel

example : ∀ ne ∈ exampleCols, EntryOK quiet exampleCols ne.1 ne.2 := by
  have hb : screened (.obj [(HED, .str ['L', '/', '#'])]) = [([], ['L', '/', '#'])] := by decide +kernel
  intro ne hne
  simp only [exampleCols, List.mem_cons, List.not_mem_nil, or_false] at hne
  rcases hne with rfl | rfl | rfl
  · refine ⟨by decide +kernel, Or.inr (Or.inr ⟨_, [(['x'], .str ['R']), (['y'], .str ['{', 'b', '}'])], rfl, rfl, by simp, ?_⟩), ?_⟩
    · intro kv hkv
      simp only [List.mem_cons, List.not_mem_nil, or_false] at hkv
      rcases hkv with rfl | rfl
      · exact ⟨_, rfl, by decide +kernel, by decide +kernel, by decide +kernel⟩
      · exact ⟨_, rfl, by decide +kernel, by decide +kernel, by decide +kernel⟩
    · intro ks hks
      have : screened (.obj [(HED, .obj [(['x'], .str ['R']), (['y'], .str ['{', 'b', '}'])])])
          = [(['x'], ['R']), (['y'], ['{', 'b', '}'])] := by decide +kernel
      rw [this] at hks
      simp only [List.mem_cons, List.not_mem_nil, or_false] at hks
      rcases hks with rfl | rfl
      · exact ⟨by decide +kernel, fun r hr => by simp [findRefs, findRefsGo] at hr⟩
      · refine ⟨by decide +kernel, fun r hr => ?_⟩
        have hr' : r = ['b'] := by
          have : findRefs ['{', 'b', '}'] = [['b']] := by decide +kernel
          rw [this] at hr; simpa using hr
        subst hr'
        refine ⟨Or.inr ⟨.obj [(HED, .str ['L', '/', '#'])], by simp [exampleCols], by decide +kernel⟩, by decide +kernel, ?_⟩
        intro e' he' ks' hks'
        have : e' = .obj [(HED, .str ['L', '/', '#'])] := by
          simp only [exampleCols, List.mem_cons, List.not_mem_nil, or_false, Prod.mk.injEq] at he'
          rcases he' with ⟨h, _⟩ | ⟨_, h⟩ | ⟨h, _⟩
          · exact absurd h (by decide +kernel)
          · exact h
          · exact absurd h (by decide +kernel)
        subst this
        rw [hb] at hks'
        simp only [List.mem_singleton] at hks'
        subst hks'
        decide +kernel
  · refine ⟨by decide +kernel, Or.inr (Or.inl ⟨_, ['L', '/', '#'], rfl, rfl, by decide +kernel⟩), ?_⟩
    intro ks hks
    rw [hb] at hks
    simp only [List.mem_singleton] at hks
    subst hks
    exact ⟨by decide +kernel, fun r hr => by simp [findRefs, findRefsGo] at hr⟩
  · refine ⟨by decide +kernel, Or.inl ⟨by decide +kernel, by decide +kernel⟩, ?_⟩
    intro ks hks
    have : screened (.obj [(['L'], .num 1)]) = [] := by decide +kernel
    rw [this] at hks
    cases hks


/-! ## sidecars that declare definitions (`validateD`: the definition part computed by the model)

`Defs` (property C09) supplies the acceptance of one definition group (`Defs.accept`, `C09.accept_iff`); here: the order in
which the sidecar layer meets the candidates, first-wins across entries and columns, the labelling of the issues. -/

/-- a candidate definition: a top-level group of an entry that holds a `Definition` tag, where it stands -/
structure Cand where
  col : Str
  key : Option Str
  dt : Defs.Tag
  ks : List Defs.Node

/-- the candidates of one entry, in order (`find_top_level_tags({"Definition"})`) -/
def candsOfString (O : Oracle) (col : Str) (key : Option Str) (s : Str) : List Cand :=
  (Defs.groupsOf (O.defTree s)).filterMap fun ks => (Defs.defTagOf ks).map fun dt => ⟨col, key, dt, ks⟩

/-- the screened entries of the sidecar as `(column, get_hed_strings())`, column order -/
def columnsP (src : List (Str × Json)) : List (Str × List (Str × Str)) :=
  src.map fun ne => (ne.1, screened ne.2)

/-- all candidates of the sidecar in the order `extract_definitions` meets them: column, key, position in the entry -/
def candidates (O : Oracle) (src : List (Str × Json)) : List Cand :=
  (columnsP src).flatMap fun c => c.2.flatMap fun ks => candsOfString O c.1 (keyCtx c.2 ks.1) ks.2

/-- candidates through `Defs.accept`, one dictionary: the final dictionary and the labelled issues, in order -/
def runCands (fold : Str → Str) : Defs.DefDict → List Cand → Defs.DefDict × List Issue
  | dd, [] => (dd, [])
  | dd, c :: cs =>
    let r := Defs.accept fold dd c.dt c.ks
    let t := runCands fold r.1 cs
    (t.1, r.2.map (defLabel c.col c.key) ++ t.2)

theorem runCands_append (fold : Str → Str) : ∀ (a b : List Cand) (dd : Defs.DefDict),
    runCands fold dd (a ++ b) =
      ((runCands fold (runCands fold dd a).1 b).1, (runCands fold dd a).2 ++ (runCands fold (runCands fold dd a).1 b).2)
  | [], b, dd => by simp [runCands]
  | c :: a, b, dd => by
    simp only [List.cons_append, runCands, runCands_append fold a b, List.append_assoc]

theorem acceptString_run (O : Oracle) (col : Str) (key : Option Str) (s : Str) (dd : Defs.DefDict) :
    ((Defs.acceptString O.fold dd (O.defTree s)).1,
     (Defs.acceptString O.fold dd (O.defTree s)).2.map (defLabel col key)) = runCands O.fold dd (candsOfString O col key s) := by
  unfold Defs.acceptString candsOfString
  generalize Defs.groupsOf (O.defTree s) = gs
  suffices h : ∀ (acc : Defs.DefDict × List Defs.Issue),
      ((gs.foldl (fun acc ks => match Defs.defTagOf ks with
        | some dt => ((Defs.accept O.fold acc.1 dt ks).1, acc.2 ++ (Defs.accept O.fold acc.1 dt ks).2)
        | none => acc) acc).1,
       (gs.foldl (fun acc ks => match Defs.defTagOf ks with
        | some dt => ((Defs.accept O.fold acc.1 dt ks).1, acc.2 ++ (Defs.accept O.fold acc.1 dt ks).2)
        | none => acc) acc).2.map (defLabel col key)) =
        ((runCands O.fold acc.1 (gs.filterMap fun ks => (Defs.defTagOf ks).map fun dt => (⟨col, key, dt, ks⟩ : Cand))).1,
         acc.2.map (defLabel col key) ++
          (runCands O.fold acc.1 (gs.filterMap fun ks => (Defs.defTagOf ks).map fun dt => (⟨col, key, dt, ks⟩ : Cand))).2)
    from h (dd, [])
  induction gs with
  | nil => intro acc; simp [runCands]
  | cons g gs ih =>
    intro acc
    cases hd : Defs.defTagOf g with
    | none => simpa [List.foldl_cons, List.filterMap_cons, hd] using ih acc
    | some dt =>
      have := ih ((Defs.accept O.fold acc.1 dt g).1, acc.2 ++ (Defs.accept O.fold acc.1 dt g).2)
      simp only [List.foldl_cons, List.filterMap_cons, hd, Option.map_some, runCands] at this ⊢
      rw [this]
      simp [List.append_assoc]

/-- `extract_definitions` without the `Except` steps -/
def extractP (O : Oracle) (src : List (Str × Json)) : Defs.DefDict × List Issue :=
  (columnsP src).foldl (extractColumn O) ([], [])

theorem extractDefs_eq (O : Oracle) (src : List (Str × Json)) :
    extractDefs .fixed O (colsP src) = .ok (extractP O src) := by
  unfold extractDefs extractP columnsP
  rw [mapE_ok (fun c : Col => (c.name, stringsP c.entry c.ctype))]
  · simp [colsP, List.map_map, Function.comp_def, screened]
  · intro c hc
    cases c
    simp only [hedStrings_good (good_cols _ _ hc)]

theorem extractDefsDoc_eq (O : Oracle) (doc : Json) :
    extractDefsDoc .fixed O doc = .ok (extractP O (loadP doc).2) := by
  simp only [extractDefsDoc, load_eq, columnData_eq, extractDefs_eq]

/-- `validate(schema, extra_def_dicts)` with the definition part computed, without the `Except` steps -/
def validateDP (O : Oracle) (ext : List Str) (doc : Json) : List Issue :=
  validateP (withDefs O ((extractP O (loadP doc).2).2 ++ mergeIssues (extractP O (loadP doc).2).1 ext)) doc

theorem validateD_eq (O : Oracle) (ext : List Str) (doc : Json) :
    validateD .fixed O ext doc = .ok (validateDP O ext doc) := by
  simp only [validateD, extractDefsDoc_eq, validate_eq, validateDP]

/-- **Totality with declared definitions**: extraction of the sidecar's definitions, the merge with external dictionaries and
the validation that uses them return a list of issues for every JSON value; no step raises. -/
theorem sidecar_defs_total (O : Oracle) (ext : List Str) (doc : Json) :
    (∃ dd dis, extractDefsDoc .fixed O doc = .ok (dd, dis)) ∧ ∃ issues, validateD .fixed O ext doc = .ok issues :=
  ⟨⟨_, _, extractDefsDoc_eq O doc⟩, _, validateD_eq O ext doc⟩

theorem foldl_runCands (fold : Str → Str) {X : Type} {g : X → List Cand}
    {step : Defs.DefDict × List Issue → X → Defs.DefDict × List Issue}
    (hstep : ∀ acc x, step acc x = ((runCands fold acc.1 (g x)).1, acc.2 ++ (runCands fold acc.1 (g x)).2)) :
    ∀ (xs : List X) (acc : Defs.DefDict × List Issue), xs.foldl step acc =
      ((runCands fold acc.1 (xs.flatMap g)).1, acc.2 ++ (runCands fold acc.1 (xs.flatMap g)).2)
  | [], acc => by simp [runCands]
  | x :: xs, acc => by
    rw [List.foldl_cons, foldl_runCands fold hstep xs, hstep]
    simp only [List.flatMap_cons, runCands_append, List.append_assoc]

theorem extractP_run (O : Oracle) (src : List (Str × Json)) : extractP O src = runCands O.fold [] (candidates O src) := by
  have hcol : ∀ (acc : Defs.DefDict × List Issue) (c : Str × List (Str × Str)), extractColumn O acc c =
      ((runCands O.fold acc.1 (c.2.flatMap fun ks => candsOfString O c.1 (keyCtx c.2 ks.1) ks.2)).1,
       acc.2 ++ (runCands O.fold acc.1 (c.2.flatMap fun ks => candsOfString O c.1 (keyCtx c.2 ks.1) ks.2)).2) :=
    fun acc c => foldl_runCands O.fold (fun a ks => by
      have hs := acceptString_run O c.1 (keyCtx c.2 ks.1) ks.2 a.1
      rw [extractString, ← congrArg Prod.fst hs, ← congrArg Prod.snd hs]) c.2 acc
  rw [extractP, foldl_runCands O.fold hcol]
  rfl

/-! ### the dictionary: accepted candidates, first occurrence per folded name -/

/-- the conditions of C09 on one candidate, as a Boolean (`C09.acceptable_iff`) -/
def okCand (c : Cand) : Bool := (C09.issues1 c.dt c.ks).isEmpty && (C09.issues2 c.dt c.ks).isEmpty

theorem okCand_iff (c : Cand) : okCand c = true ↔ C09.Acceptable c.dt c.ks := by
  rw [C09.acceptable_iff]
  simp [okCand, C09.issues1, C09.issues2, List.isEmpty_iff]

/-- folded name under which a candidate would be stored -/
def candKey (fold : Str → Str) (c : Cand) : Str := fold (Defs.stripValue c.dt.extension).1

/-- the acceptable candidates whose folded name has not been taken, in order; `seen` = names already taken -/
def firstAccepted (fold : Str → Str) : List Str → List Cand → List Cand
  | _, [] => []
  | seen, c :: cs =>
    if okCand c && !seen.contains (candKey fold c) then c :: firstAccepted fold (seen ++ [candKey fold c]) cs
    else firstAccepted fold seen cs

theorem lookup_isSome_iff (dd : Defs.DefDict) (k : Str) : (Defs.lookup dd k).isSome = (dd.map (·.key)).contains k :=
  Bool.eq_iff_iff.mpr (by simp [Defs.lookup])

/-- **The extracted dictionary** is exactly: for each candidate in column / key / position order that satisfies the C09
conditions and whose folded name is new, the entry `C09.newEntry` (sorted fresh copy of its content under the folded name) —
first occurrence wins, later ones leave it untouched. -/
theorem runCands_dict (fold : Str → Str) : ∀ (cs : List Cand) (dd : Defs.DefDict),
    (runCands fold dd cs).1 = dd ++ (firstAccepted fold (dd.map (·.key)) cs).map fun c => C09.newEntry fold c.dt c.ks
  | [], dd => by simp [runCands, firstAccepted]
  | c :: cs, dd => by
    have hcond : (okCand c && !(dd.map (·.key)).contains (candKey fold c)) = true ↔
        C09.Acceptable c.dt c.ks ∧ Defs.lookup dd (candKey fold c) = none := by
      rw [Bool.and_eq_true, okCand_iff, ← lookup_isSome_iff, Bool.not_eq_true', Option.isSome_eq_false_iff,
        Option.isNone_iff_eq_none]
    simp only [runCands, firstAccepted, runCands_dict fold cs]
    by_cases h : C09.Acceptable c.dt c.ks ∧ Defs.lookup dd (candKey fold c) = none
    · rw [if_pos (hcond.mpr h), (C09.accept_iff fold dd c.dt c.ks).1 h, List.map_append, List.map_cons, List.append_assoc]
      rfl
    · rw [if_neg (mt hcond.mp h), ((C09.accept_iff fold dd c.dt c.ks).2 h).1]

theorem defs_extracted_spec (O : Oracle) (src : List (Str × Json)) :
    (extractP O src).1 = (firstAccepted O.fold [] (candidates O src)).map fun c => C09.newEntry O.fold c.dt c.ks := by
  rw [extractP_run, runCands_dict]; rfl

/-! ### the issues: every rejected candidate is reported at its column / key -/

theorem runCands_issues_mem {fold : Str → Str} {pre post : List Cand} {c : Cand} {dd : Defs.DefDict} {di : Defs.Issue}
    (h : di ∈ (Defs.accept fold (runCands fold dd pre).1 c.dt c.ks).2) :
    defLabel c.col c.key di ∈ (runCands fold dd (pre ++ c :: post)).2 := by
  rw [runCands_append]
  simp only [runCands, List.mem_append, List.mem_map]
  exact Or.inr (Or.inl ⟨di, h, rfl⟩)

/-- **Every rejected definition is reported**: a candidate that breaks a C09 condition, or whose folded name was already
taken by an earlier accepted candidate of the sidecar, yields at least one `DEFINITION_INVALID` issue of error severity
labelled with its column and (for a column with several entries) its key: every issue `Defs.accept` computes
for it against the dictionary built from the candidates before it is reported so. -/
theorem def_issue_in_extraction (O : Oracle) (src : List (Str × Json)) (pre post : List Cand) (c : Cand)
    (hc : candidates O src = pre ++ c :: post)
    (hrej : ¬ (C09.Acceptable c.dt c.ks ∧
      Defs.lookup (runCands O.fold [] pre).1 (O.fold (Defs.stripValue c.dt.extension).1) = none)) :
    (Defs.accept O.fold (runCands O.fold [] pre).1 c.dt c.ks).2 ≠ [] ∧
    ∀ di ∈ (Defs.accept O.fold (runCands O.fold [] pre).1 c.dt c.ks).2,
      defLabel c.col c.key di ∈ (extractP O src).2 ∧ (defLabel c.col c.key di).isError = true ∧
      (defLabel c.col c.key di).code = ['D','E','F','I','N','I','T','I','O','N','_','I','N','V','A','L','I','D'] := by
  refine ⟨((C09.accept_iff O.fold _ c.dt c.ks).2 hrej).2, fun di hdi => ⟨?_, mk_isError _ _ _, ?_⟩⟩
  · rw [extractP_run, hc]
    exact runCands_issues_mem hdi
  · cases di <;> rfl

/-- the same, in the output of validation (no structural or reference error: the early exit is not taken) -/
theorem def_issue_reported (O : Oracle) (ext : List Str) (cols : List (Str × Json)) (pre post : List Cand) (c : Cand)
    (hne : anyError (earlyP (.obj cols)) = false) (hc : candidates O cols = pre ++ c :: post)
    (hrej : ¬ (C09.Acceptable c.dt c.ks ∧
      Defs.lookup (runCands O.fold [] pre).1 (O.fold (Defs.stripValue c.dt.extension).1) = none)) :
    ∃ di, defLabel c.col c.key di ∈ validateDP O ext (.obj cols) ∧ (defLabel c.col c.key di).isError = true ∧
      (defLabel c.col c.key di).code = ['D','E','F','I','N','I','T','I','O','N','_','I','N','V','A','L','I','D'] ∧
      (defLabel c.col c.key di).col = some c.col ∧ (defLabel c.col c.key di).key = c.key := by
  obtain ⟨hne', hall⟩ := def_issue_in_extraction O cols pre post c hc hrej
  cases hl : (Defs.accept O.fold (runCands O.fold [] pre).1 c.dt c.ks).2 with
  | nil => exact absurd hl hne'
  | cons di rest =>
    obtain ⟨hm, he, hcode⟩ := hall di (by rw [hl]; exact List.mem_cons_self ..)
    refine ⟨di, ?_, he, hcode, rfl, rfl⟩
    unfold validateDP validateP
    rw [if_neg (by simp [hne])]
    simp only [loadP, withDefs, List.mem_append]
    exact Or.inl (Or.inr (Or.inl hm))

/-- an external dictionary that defines a name the sidecar defines too: one more `duplicateDefinition`, without context -/
theorem merge_duplicate_reported (O : Oracle) (ext : List Str) (cols : List (Str × Json)) (k : Str)
    (hne : anyError (earlyP (.obj cols)) = false) (hk : k ∈ ext)
    (hd : (Defs.lookup (extractP O cols).1 k).isSome = true) :
    mk (.defn .duplicateDefinition) none none ∈ validateDP O ext (.obj cols) := by
  unfold validateDP validateP
  rw [if_neg (by simp [hne])]
  simp only [loadP, withDefs, List.mem_append]
  refine Or.inl (Or.inr (Or.inr ?_))
  exact List.mem_map.mpr ⟨k, List.mem_filter.mpr ⟨hk, hd⟩, rfl⟩

theorem runCands_issues_nil (fold : Str → Str) : ∀ (cs : List Cand) (dd : Defs.DefDict),
    (∀ pre c post, cs = pre ++ c :: post → C09.Acceptable c.dt c.ks ∧
      Defs.lookup (runCands fold dd pre).1 (fold (Defs.stripValue c.dt.extension).1) = none) →
    (runCands fold dd cs).2 = []
  | [], _, _ => rfl
  | c :: cs, dd, h => by
    have h0 := h [] c cs rfl
    have hacc := (C09.accept_iff fold dd c.dt c.ks).1 h0
    simp only [runCands, hacc, List.map_nil, List.nil_append]
    apply runCands_issues_nil fold cs
    intro pre c' post hsplit
    have := h (c :: pre) c' post (by rw [hsplit]; rfl)
    simpa [runCands, hacc] using this

/-- **Well-formed sidecars that declare definitions**: if every column obeys the structural rules (the `#` rule not applying
to entries that declare definitions; a column declares definitions in all its entries or in none), every declared definition
satisfies the C09 conditions under a name not used before in the sidecar nor by the external dictionaries, and the string
layer finds no error, then validation — with the definitions extracted by the model — reports no error-severity issue.
(`withDefs O []`: the oracle `validateDP` runs with, up to its definition issues.) -/
theorem wellformed_defs_ok (O : Oracle) (ext : List Str) (cols : List (Str × Json))
    (hwf : ∀ ne ∈ cols, EntryOK (withDefs O []) cols ne.1 ne.2) (hO : OracleOK (withDefs O []) cols)
    (hcand : ∀ pre c post, candidates O cols = pre ++ c :: post → C09.Acceptable c.dt c.ks ∧
      Defs.lookup (runCands O.fold [] pre).1 (O.fold (Defs.stripValue c.dt.extension).1) = none)
    (hext : ∀ k ∈ ext, (Defs.lookup (extractP O cols).1 k).isSome = false) :
    ∀ i ∈ validateDP O ext (.obj cols), i.isError = false := by
  have h1 : (extractP O cols).2 = [] := by rw [extractP_run]; exact runCands_issues_nil O.fold _ [] hcand
  have h2 : mergeIssues (extractP O cols).1 ext = [] := by
    simp only [mergeIssues, List.map_eq_nil_iff, List.filter_eq_nil_iff]
    intro k hk
    simp [hext k hk]
  unfold validateDP
  simp only [loadP, h1, h2, List.append_nil]
  exact wellformed_ok (withDefs O []) cols hwf hO

/- a concrete sidecar `{"d": {"HED": {"x": "A", "y": "B"}}, "v": {"HED": "L/#"}}` whose entries `A` and `B` both parse to
   `(Definition/X, (R))`: the second is a duplicate, reported at `d` / `y`; the dictionary keeps one entry; an external
   dictionary defining `x` too adds the context-free duplicate -/
def defTreeX : List Defs.Node := [.grp [.tag { base := .definition, ext := ['/', 'X'] }, .grp [.tag { name := ['R'] }]]]
def quietDefs : Oracle :=
  { quiet with defTree := fun s => if s == ['A'] || s == ['B'] then defTreeX else [], fold := fun s => s.map Char.toLower }
def defsDoc : Json :=
  .obj [(['d'], .obj [(HED, .obj [(['x'], .str ['A']), (['y'], .str ['B'])])]), (['v'], .obj [(HED, .str ['L', '/', '#'])])]

example : validateD .fixed quietDefs [] defsDoc = .ok [defLabel ['d'] (some ['y']) .duplicateDefinition] := by decide +kernel
example : validateD .fixed quietDefs [['x']] defsDoc
    = .ok [defLabel ['d'] (some ['y']) .duplicateDefinition, mk (.defn .duplicateDefinition) none none] := by decide +kernel
example : ((extractP quietDefs (loadP defsDoc).2).1.map (·.key)) = [['x']] := by decide +kernel
example : (candidates quietDefs (loadP defsDoc).2).length = 2 := by decide +kernel

/- a well-formed sidecar that declares a definition: no issue, one dictionary entry -/
example : validateD .fixed quietDefs [['e']]
    (.obj [(['d'], .obj [(HED, .obj [(['x'], .str ['A'])])]), (['v'], .obj [(HED, .str ['L', '/', '#'])])]) = .ok [] := by decide +kernel

end HedVerif.C08
